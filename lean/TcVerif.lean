import TcVerif.Gen.Consts
import TcVerif.Model.Basic
import TcVerif.Model.SoftFloat
import TcVerif.Model.Store
import TcVerif.Model.Gcra
import TcVerif.Model.Bucket
import TcVerif.Model.Resp
import TcVerif.Model.RespDriver
import TcVerif.Model.Wire
import TcVerif.Model.Metrics
import TcVerif.Model.MetricsDriver
import TcVerif.Model.Actor
import TcVerif.Model.ActorDriver
import TcVerif.Lemmas.Loop
import TcVerif.Lemmas.Decision
import TcVerif.Lemmas.Arith
import TcVerif.Lemmas.TotalArith
import TcVerif.Lemmas.Data
import TcVerif.Lemmas.StoreSim
import TcVerif.Lemmas.Cleanup
import TcVerif.Lemmas.LimiterSim
import TcVerif.Lemmas.Cell
import TcVerif.Lemmas.CellStep
import TcVerif.Lemmas.BucketSim
import TcVerif.Lemmas.History
import TcVerif.Lemmas.NonMono
import TcVerif.Lemmas.Float
import TcVerif.Lemmas.FloatRne
import TcVerif.Lemmas.RespLine
import TcVerif.Lemmas.RespInt
import TcVerif.Lemmas.RespUtf8
import TcVerif.Lemmas.RespDecode
import TcVerif.Lemmas.RespWF
import TcVerif.Lemmas.RespDepth
import TcVerif.Lemmas.RespCmd
import TcVerif.Lemmas.RespConn
import TcVerif.Lemmas.RespPlan
import TcVerif.Lemmas.MetricsCounters
import TcVerif.Lemmas.MetricsResp
import TcVerif.Lemmas.MetricsTop
import TcVerif.Lemmas.MetricsEscape
import TcVerif.Lemmas.ActorLists
import TcVerif.Lemmas.ActorInv
import TcVerif.Lemmas.ActorOrder
import TcVerif.Lemmas.ActorProgress
import TcVerif.Lemmas.ActorToy
import TcVerif.Lemmas.ActorGcra
import TcVerif.Props.C01
import TcVerif.Props.C02
import TcVerif.Props.C03
import TcVerif.Props.C04
import TcVerif.Props.C05
import TcVerif.Props.C06
import TcVerif.Props.C07
import TcVerif.Props.C08
import TcVerif.Props.C09
import TcVerif.Props.C10
import TcVerif.Props.C10Resp
import TcVerif.Props.C11
import TcVerif.Props.C12
import TcVerif.Props.C13
import TcVerif.Props.C14
import TcVerif.Props.C15
import TcVerif.Props.C16
import TcVerif.Props.C17
import TcVerif.Props.C18
