/-
  The denied-key tracker (`TopDeniedKeys`).  Tables are association lists with distinct keys, read
  through `cnt`.  A step ignores a long key, or inserts the key and settles the table (`Settle`:
  left alone while it fits, else cleaned up).  What every `Run` keeps is one invariant (`run_inv`);
  that the counts are exact while the distinct keys fit is a second induction over `Run`
  (`run_exact`).  The deterministic instance is an insertion sort.
-/
import TcVerif.Model.Metrics

namespace TcVerif.Metrics
open TcVerif.Gen

/-! The property speaks of 256 bytes and of 3 times the configured size.  The lemmas below use the
constants' names; the values are stated here once, for `Props/C16.lean` alone to use. -/

theorem maxKeyLength_eq : METRICS_MAX_KEY_LENGTH = 256 := rfl
theorem growthFactor_eq : METRICS_GROWTH_FACTOR = 3 := rfl

theorem le_growth (max : Nat) : max ≤ max * METRICS_GROWTH_FACTOR :=
  Nat.le_mul_of_pos_right max (by decide)

theorem cnt_cons (a : Key) (b : Nat) (t : Table) (k : Key) :
    cnt ((a, b) :: t) k = (if a = k then b else 0) + cnt t k := rfl

theorem keysNodup_cons (a : Key) (b : Nat) (t : Table) :
    KeysNodup ((a, b) :: t) ↔ a ∉ t.map (·.1) ∧ KeysNodup t :=
  List.nodup_cons

theorem keysNodup_perm {t t' : Table} (h : t.Perm t') : KeysNodup t ↔ KeysNodup t' :=
  (h.map _).nodup_iff

theorem cnt_eq_sum (t : Table) (k : Key) :
    cnt t k = (t.map fun e => if e.1 = k then e.2 else 0).sum := by
  induction t with
  | nil => rfl
  | cons e t ih => rw [List.map_cons, List.sum_cons, ← ih]; rfl

theorem cnt_perm {t t' : Table} (h : t.Perm t') (k : Key) : cnt t k = cnt t' k := by
  rw [cnt_eq_sum, cnt_eq_sum]
  exact (h.map _).sum_nat

theorem cnt_eq_zero_of_not_mem {t : Table} {k : Key} (h : k ∉ t.map (·.1)) : cnt t k = 0 := by
  rw [cnt_eq_sum, List.sum_eq_zero_iff_forall_eq_nat]
  intro x hx
  obtain ⟨e, he, rfl⟩ := List.mem_map.mp hx
  exact if_neg fun hk : e.1 = k => h (hk ▸ List.mem_map_of_mem he)

theorem mem_keys_of_cnt_pos {t : Table} {k : Key} (h : 0 < cnt t k) : k ∈ t.map (·.1) :=
  Decidable.by_contra fun hn => by rw [cnt_eq_zero_of_not_mem hn] at h; exact Nat.lt_irrefl 0 h

theorem cnt_of_mem {t : Table} {k : Key} {n : Nat} (hn : KeysNodup t) (h : (k, n) ∈ t) :
    cnt t k = n := by
  have hp := List.perm_cons_erase h
  rw [keysNodup_perm hp, keysNodup_cons] at hn
  rw [cnt_perm hp, cnt_cons, if_pos rfl, cnt_eq_zero_of_not_mem hn.1]
  rfl

theorem mem_of_cnt_pos {t : Table} {k : Key} (hn : KeysNodup t) (h : 0 < cnt t k) :
    (k, cnt t k) ∈ t := by
  obtain ⟨⟨k', n⟩, he, rfl⟩ := List.mem_map.mp (mem_keys_of_cnt_pos h)
  rw [cnt_of_mem hn he]
  exact he

theorem bumpKey_nil (k : Key) : bumpKey [] k = [(k, 1)] := rfl

theorem bumpKey_cons (a : Key) (b : Nat) (t : Table) (k : Key) :
    bumpKey ((a, b) :: t) k = if a = k then (a, b + 1) :: t else (a, b) :: bumpKey t k := rfl

theorem mem_bumpKey {t : Table} {k : Key} {e : Key × Nat} (h : e ∈ bumpKey t k) :
    e ∈ t ∨ (∃ n, (k, n) ∈ t ∧ e = (k, n + 1)) ∨ e = (k, 1) := by
  fun_induction bumpKey t k with
  | case1 k => exact .inr (.inr (List.mem_singleton.mp h))
  | case2 n t k =>
    rcases List.mem_cons.mp h with h | h
    · exact .inr (.inl ⟨n, List.mem_cons_self, h⟩)
    · exact .inl (List.mem_cons_of_mem _ h)
  | case3 k' n t k hne ih =>
    rcases List.mem_cons.mp h with h | h
    · exact .inl (h ▸ List.mem_cons_self)
    · exact (ih h).imp (List.mem_cons_of_mem _)
        (.imp_left fun ⟨n, hm, he⟩ => ⟨n, List.mem_cons_of_mem _ hm, he⟩)

theorem mem_keys_bumpKey {t : Table} {k x : Key} (h : x ∈ (bumpKey t k).map (·.1)) :
    x = k ∨ x ∈ t.map (·.1) := by
  obtain ⟨e, he, rfl⟩ := List.mem_map.mp h
  rcases mem_bumpKey he with h | ⟨n, _, rfl⟩ | rfl
  · exact .inr (List.mem_map_of_mem h)
  · exact .inl rfl
  · exact .inl rfl

theorem keysNodup_bumpKey {t : Table} (k : Key) (hn : KeysNodup t) : KeysNodup (bumpKey t k) := by
  fun_induction bumpKey t k with
  | case1 k => exact List.nodup_cons.mpr ⟨List.not_mem_nil, List.nodup_nil⟩
  | case2 n t k => exact (keysNodup_cons ..).mpr ((keysNodup_cons ..).mp hn)
  | case3 k' n t k hne ih =>
    rw [keysNodup_cons] at hn
    exact (keysNodup_cons ..).mpr ⟨fun hh => (mem_keys_bumpKey hh).elim hne hn.1, ih hn.2⟩

theorem length_bumpKey (t : Table) (k : Key) :
    t.length ≤ (bumpKey t k).length ∧ (bumpKey t k).length ≤ t.length + 1 := by
  fun_induction bumpKey t k <;> simp only [List.length_cons] <;> omega

theorem length_le_bumpKey (t : Table) (k : Key) : t.length ≤ (bumpKey t k).length :=
  (length_bumpKey t k).1

theorem cnt_bumpKey (t : Table) (k x : Key) :
    cnt (bumpKey t k) x = cnt t x + if k = x then 1 else 0 := by
  fun_induction bumpKey t k with
  | case1 k => exact Nat.add_comm ..
  | case2 n t k =>
    simp only [cnt_cons]
    split <;> omega
  | case3 k' n t k hne ih =>
    simp only [cnt_cons, ih]
    omega

/-- the inner `if` of `ValidStep`, what `update` does after the insert: nothing while the table
    fits, else some cleanup -/
def Settle (max : Nat) (b t' : Table) : Prop :=
  if b.length > max * METRICS_GROWTH_FACTOR then ValidCleanup max b t' else t'.Perm b

theorem settle_sub {max : Nat} {b t' : Table} (hn : KeysNodup b) (h : Settle max b t') :
    KeysNodup t' ∧ (∀ e ∈ t', e ∈ b) ∧ t'.length ≤ METRICS_GROWTH_FACTOR * max := by
  unfold Settle at h
  -- the model writes `max * 3`, C16's statements `3 * max`
  rw [Nat.mul_comm]
  split at h
  · exact ⟨h.1, h.2.1, h.2.2.1 ▸ Nat.le_trans (Nat.min_le_left ..) (le_growth max)⟩
  · next hfit =>
    exact ⟨(keysNodup_perm h).mpr hn, fun e => h.mem_iff.mp, h.length_eq ▸ Nat.not_lt.mp hfit⟩

theorem settle_perm {max : Nat} {b t' : Table} (h : Settle max b t') (hfit : b.length ≤ max) :
    t'.Perm b :=
  (if_neg (Nat.not_lt.mpr (Nat.le_trans hfit (le_growth max)))).mp h

theorem validStep_cases {max : Nat} {t t' : Table} {k : Key} (h : ValidStep max t k t') :
    METRICS_MAX_KEY_LENGTH < k.length ∧ t'.Perm t ∨
      k.length ≤ METRICS_MAX_KEY_LENGTH ∧ Settle max (bumpKey t k) t' :=
  if hk : METRICS_MAX_KEY_LENGTH < k.length then .inl ⟨hk, (if_pos hk).mp h.2⟩
  else .inr ⟨Nat.not_lt.mp hk, (if_neg hk).mp h.2⟩

theorem checkCleanup_iff (max : Nat) (t t' : Table) :
    checkCleanup max t t' = true ↔ ValidCleanup max t t' :=
  decide_eq_true_iff

theorem trueCount_snoc (s : List Key) (k x : Key) :
    trueCount (s ++ [k]) x = trueCount s x + if k = x then 1 else 0 := by
  simp only [trueCount, List.count_append, List.count_cons, List.count_nil, beq_iff_eq,
    Nat.zero_add]

/-- a tracked count may fall short of the true one (a cleanup drops the key, and it starts again at
    1), never exceed it -/
def EntryOK (stream : List Key) (e : Key × Nat) : Prop :=
  1 ≤ e.2 ∧ e.2 ≤ trueCount stream e.1 ∧ e.1.length ≤ METRICS_MAX_KEY_LENGTH

theorem entryOK_snoc {s : List Key} {e : Key × Nat} (k : Key) (h : EntryOK s e) :
    EntryOK (s ++ [k]) e :=
  ⟨h.1, by rw [trueCount_snoc]; exact Nat.le_add_right_of_le h.2.1, h.2.2⟩

theorem entryOK_bumpKey {s : List Key} {t : Table} {k : Key}
    (hk : k.length ≤ METRICS_MAX_KEY_LENGTH) (hall : ∀ e ∈ t, EntryOK s e) : ∀ e ∈ bumpKey t k, EntryOK (s ++ [k]) e := by
  intro e he
  rcases mem_bumpKey he with h | ⟨n, hm, rfl⟩ | rfl
  · exact entryOK_snoc k (hall e h)
  · have := (hall _ hm).2.1
    exact ⟨Nat.le_add_left .., by rw [trueCount_snoc, if_pos rfl]; exact Nat.succ_le_succ this, hk⟩
  · exact ⟨Nat.le_refl _, by rw [trueCount_snoc, if_pos rfl]; exact Nat.le_add_left .., hk⟩

theorem run_inv {max : Nat} {s : List Key} {t : Table} (h : Run max s t) :
    KeysNodup t ∧ t.length ≤ METRICS_GROWTH_FACTOR * max ∧ ∀ e ∈ t, EntryOK s e := by
  induction h with
  | nil => exact ⟨List.nodup_nil, Nat.zero_le _, fun e he => nomatch he⟩
  | @snoc s t t' k _ hv ih =>
    obtain ⟨hn, hlen, hall⟩ := ih
    rcases validStep_cases hv with ⟨_, hp⟩ | ⟨hk, hv⟩
    · exact ⟨(keysNodup_perm hp).mpr hn, hp.length_eq ▸ hlen,
        fun e he => entryOK_snoc k (hall e (hp.mem_iff.mp he))⟩
    · obtain ⟨hn', hsub, hl'⟩ := settle_sub (keysNodup_bumpKey k hn) hv
      exact ⟨hn', hl', fun e he => entryOK_bumpKey hk hall e (hsub e he)⟩

theorem run_keys {max : Nat} {s : List Key} {t : Table} (h : Run max s t) {x : Key}
    (hx : x ∈ t.map (·.1)) : x ∈ s ∧ x.length ≤ METRICS_MAX_KEY_LENGTH := by
  obtain ⟨e, he, rfl⟩ := List.mem_map.mp hx
  obtain ⟨h1, h2, h3⟩ := (run_inv h).2.2 e he
  exact ⟨List.count_pos_iff.mp (Nat.lt_of_lt_of_le h1 h2), h3⟩

theorem mem_distinctKeys (s : List Key) (k : Key) : k ∈ distinctKeys s ↔ k ∈ s := by
  fun_induction distinctKeys s generalizing k with
  | case1 => exact Iff.rfl
  | case2 a s h ih =>
    rw [ih, List.mem_cons]
    exact ⟨Or.inr, fun hk => hk.elim (fun e => e ▸ (ih a).mp h) id⟩
  | case3 a s h ih => rw [List.mem_cons, List.mem_cons, ih]

theorem nodup_distinctKeys (s : List Key) : (distinctKeys s).Nodup := by
  fun_induction distinctKeys s with
  | case1 => exact List.nodup_nil
  | case2 a s h ih => exact ih
  | case3 a s h ih => exact List.nodup_cons.mpr ⟨h, ih⟩

theorem mem_shortKeys (s : List Key) (k : Key) :
    k ∈ shortKeys s ↔ k ∈ s ∧ k.length ≤ METRICS_MAX_KEY_LENGTH := by
  unfold shortKeys
  simp only [List.mem_filter, decide_eq_true_eq]

/-- nothing has been lost to a cleanup: the table holds the true number of denials in `s` for every
    key it tracks, and no other key -/
def Exact (s : List Key) (t : Table) : Prop :=
  ∀ k, cnt t k = if k.length ≤ METRICS_MAX_KEY_LENGTH then trueCount s k else 0

/-- "Few distinct keys" is stated as a cover `l` of the tracked keys: a cover of a stream covers
    its prefixes, so the induction needs no monotonicity of `distinctShort`. -/
theorem run_exact {max : Nat} {s : List Key} {t : Table} (h : Run max s t)
    (l : List Key) (hl : l.length ≤ max) (hcover : ∀ k ∈ s, k.length ≤ METRICS_MAX_KEY_LENGTH → k ∈ l) :
    Exact s t := by
  induction h with
  | nil => intro k; split <;> rfl
  | @snoc s t t' k hr hv ih =>
    have ih := ih fun x hx => hcover x (List.mem_append_left _ hx)
    intro x
    split
    · next hx =>
      have ihx := (ih x).trans (if_pos hx)
      rw [trueCount_snoc]
      rcases validStep_cases hv with ⟨hk, hp⟩ | ⟨hk, hv⟩
      · rw [cnt_perm hp, ihx, if_neg fun hh : k = x => Nat.not_le.mpr hk (hh ▸ hx)]; rfl
      · -- no cleanup: all keys of the bumped table lie in `l`
        have hsub : (bumpKey t k).map (·.1) ⊆ l := by
          intro y hy
          rcases mem_keys_bumpKey hy with rfl | hy
          · exact hcover y (List.mem_append_right _ List.mem_cons_self) hk
          · exact hcover y (List.mem_append_left _ (run_keys hr hy).1) (run_keys hr hy).2
        have hfit := List.Nodup.length_le_of_subset (keysNodup_bumpKey k (run_inv hr).1) hsub
        rw [List.length_map] at hfit
        rw [cnt_perm (settle_perm hv (Nat.le_trans hfit hl)), cnt_bumpKey, ihx]
    · -- the table never holds a long key
      next hx => exact cnt_eq_zero_of_not_mem fun h => hx (run_keys (hr.snoc hv) h).2

theorem exact_length {max : Nat} {s : List Key} {t : Table} (h : Run max s t) (hex : Exact s t) :
    t.length = distinctShort s := by
  rw [← List.length_map (·.1)]
  refine ((List.perm_ext_iff_of_nodup (run_inv h).1 (nodup_distinctKeys _)).mpr fun x => ?_).length_eq
  rw [mem_distinctKeys, mem_shortKeys]
  constructor
  · exact run_keys h
  · intro ⟨hx, hl⟩
    apply mem_keys_of_cnt_pos
    rw [hex x, if_pos hl]
    exact List.count_pos_iff.mpr hx

theorem report_complete {max : Nat} {t : Table} {r : List (Key × Nat)} (hr : ValidReport max t r)
    (hfit : t.length ≤ max) : ∀ e ∈ t, e ∈ r := by
  obtain ⟨hn, hsub, hlen, _, _⟩ := hr
  intro e he
  apply Decidable.by_contra
  intro hne
  have hnd : r.Nodup := hn.of_map _ fun a b h hab => h (hab ▸ rfl)
  -- otherwise `e :: r` would be `|t| + 1` distinct entries of `t`
  have h1 := (List.nodup_cons.mpr ⟨hne, hnd⟩).length_le_of_subset (List.cons_subset.mpr ⟨he, hsub⟩)
  rw [List.length_cons, hlen, Nat.min_eq_right hfit] at h1
  exact Nat.not_succ_le_self _ h1

def Desc (l : List (Key × Nat)) : Prop := l.Pairwise (fun a b => a.2 ≥ b.2)

theorem insertDesc_spec (e : Key × Nat) (t : Table) (h : Desc t) :
    (insertDesc e t).Perm (e :: t) ∧ Desc (insertDesc e t) := by
  fun_induction insertDesc e t with
  | case1 => exact ⟨.refl _, List.pairwise_singleton _ _⟩
  | case2 x t hgt ih =>
    obtain ⟨hx, ht⟩ := List.pairwise_cons.mp h
    obtain ⟨hp, hs⟩ := ih ht
    refine ⟨(hp.cons x).trans (.swap e x t), List.pairwise_cons.mpr ⟨fun y hy => ?_, hs⟩⟩
    rcases List.mem_cons.mp (hp.mem_iff.mp hy) with rfl | hy
    · exact Nat.le_of_lt hgt
    · exact hx y hy
  | case3 x t hle =>
    have hle := Nat.not_lt.mp hle
    exact ⟨.refl _, List.pairwise_cons.mpr ⟨List.forall_mem_cons.mpr
      ⟨hle, fun y hy => Nat.le_trans ((List.pairwise_cons.mp h).1 y hy) hle⟩, h⟩⟩

theorem sortDesc_spec (t : Table) : (sortDesc t).Perm t ∧ Desc (sortDesc t) := by
  induction t with
  | nil => exact ⟨.refl _, .nil⟩
  | cons e t ih =>
    have := insertDesc_spec e _ ih.2
    exact ⟨this.1.trans (ih.1.cons e), this.2⟩

theorem take_sorted_valid {max : Nat} {t s : Table} (hn : KeysNodup t) (hp : s.Perm t)
    (hs : Desc s) : ValidReport max t (s.take max) := by
  have hsub := List.take_sublist max s
  refine ⟨((keysNodup_perm hp).mpr hn).sublist (hsub.map _), fun e he => hp.mem_iff.mp (hsub.subset he),
    by rw [List.length_take, hp.length_eq], hs.sublist hsub, ?_⟩
  intro d hd hnd r hr
  have hd' := hp.mem_iff.mpr hd
  rw [← List.take_append_drop max s, List.mem_append] at hd'
  rw [← List.take_append_drop max s, Desc, List.pairwise_append] at hs
  exact hs.2.2 r hr d (hd'.resolve_left hnd)

theorem validReport_det {max : Nat} {t : Table} (hn : KeysNodup t) :
    ValidReport max t (reportDet max t) :=
  take_sorted_valid hn (sortDesc_spec t).1 (sortDesc_spec t).2

theorem validCleanup_det {max : Nat} {t : Table} (hn : KeysNodup t) :
    ValidCleanup max t (cleanupDet max t) := by
  unfold cleanupDet
  split
  · next h =>
    exact ⟨hn, fun e he => he, (Nat.min_eq_right h).symm, fun d hd hnd => absurd hd hnd⟩
  · obtain ⟨h1, h2, h3, _, h5⟩ := validReport_det (max := max) hn
    exact ⟨h1, h2, h3, h5⟩

theorem validStep_det {max : Nat} {t : Table} (k : Key) (hn : KeysNodup t) :
    ValidStep max t k (stepDet max t k) := by
  unfold ValidStep
  refine ⟨hn, ?_⟩
  fun_cases stepDet max t k with
  | case1 h1 => rw [if_pos h1]
  | case2 h1 h2 =>
    rw [if_neg h1, if_pos h2]
    exact validCleanup_det (keysNodup_bumpKey k hn)
  | case3 h1 h2 => rw [if_neg h1, if_neg h2]

def runDet (max : Nat) (stream : List Key) : Table := stream.foldl (stepDet max) []

/-- `Run` grows at the end of the stream, so the induction is over the reversed stream. -/
theorem run_det (max : Nat) (stream : List Key) : Run max stream (runDet max stream) := by
  rw [← stream.reverse_reverse]
  induction stream.reverse with
  | nil => exact Run.nil
  | cons k r ih =>
    rw [List.reverse_cons, runDet, List.foldl_append]
    exact Run.snoc ih (validStep_det k (run_inv ih).1)

theorem clampMax_eq (n : Nat) : clampMax n = min n 10000 := rfl

/-- what `max_denied_keys` makes of the tracker: none for size 0, otherwise a `Run` of that size -/
theorem top_run {n : Nat} {m : Metrics} (h : MReachable n m) :
    (clampMax n = 0 → m.top = none) ∧
    (clampMax n ≠ 0 → ∃ td stream, m.top = some td ∧ td.maxSize = clampMax n ∧
      Run (clampMax n) stream td.table) := by
  induction h with
  | init => exact ⟨fun h0 => if_pos h0, fun h0 => ⟨_, [], if_neg h0, rfl, Run.nil⟩⟩
  | step _ hs ih =>
    cases hs with
    | noKey t allowed => exact ih
    | error t => exact ih
    | withKey t allowed key top' hst =>
      refine ⟨fun h0 => ?_, fun h0 => ?_⟩
      · rw [ih.1 h0] at hst; exact hst
      · obtain ⟨td, stream, htop, hmax, hrun⟩ := ih.2 h0
        rw [htop] at hst
        cases allowed with
        | true => exact ⟨td, stream, hst, hmax, hrun⟩
        | false =>
          obtain ⟨t', hv, rfl⟩ := hst
          exact ⟨⟨t', td.maxSize⟩, stream ++ [key], rfl, hmax, Run.snoc hrun (hmax ▸ hv)⟩

end TcVerif.Metrics
