/-
  Arbitrary timestamp order (C17, and through it C01): what one request does to a fixed-limits
  key's cell when nothing is assumed about how its timestamp relates to earlier ones, and the
  window bound that follows: the stored TAT only moves forward in processing order, so the
  admissions stamped inside [t1,t2] are pinned between t1 - E and t2 + τ.  This holds on the
  key's cell and on any store that never physically removes entries (the abstract map); a
  store that sweeps shows the same answers as the cell only while time does not go backwards.
-/
import TcVerif.Lemmas.History
namespace TcVerif

structure NonMonoFacts (E B : Int) (c : Cell) (r : Req) : Prop where
  ok : (rateLimitE Cell.ops c E r).2.1.isOk = true
  inv : CellInv E B (rateLimitE Cell.ops c E r).1
  unchanged : ¬ ((rateLimitE Cell.ops c E r).2.1.allowed = true ∧ 0 < r.qty) → (rateLimitE Cell.ops c E r).1 = c
  written : ((rateLimitE Cell.ops c E r).2.1.allowed = true ∧ 0 < r.qty) →
      ∃ v', (rateLimitE Cell.ops c E r).1 = some (v', v' + max (B * E - E) E) ∧
        Cell.tatOr (r.now - E) c + r.qty * E ≤ v' ∧ r.now - E + r.qty * E ≤ v' ∧ v' ≤ r.now + (B * E - E)

theorem cell_step_nonmono {E B : Int} (c : Cell) (r : Req) (h : ReqOK E B r) (hinv : CellInv E B c) :
    NonMonoFacts E B c r := by
  obtain ⟨ρ, -, -, g⟩ := cell_step c r h hinv rfl
  -- of the head-room only its two upper bounds are used, not which of them it equals
  have hH : headroom E B c r.now ≤ B * E ∧
      headroom E B c r.now ≤ r.now + (B * E - E) - Cell.tatOr (r.now - E) c :=
    ⟨Int.min_le_left _ _, Int.min_le_right _ _⟩
  have hn0 := h.now0; have hn1 := h.now1; have hBE := h.dom.hBE; have hEle := h.dom.E_le; have hE := h.dom.hE
  have hp0 : 0 ≤ r.qty * E := Int.mul_nonneg h.valid.1 (by omega)
  generalize headroom E B c r.now = H at *
  constructor <;> rw [g]
  case ok => rfl
  case inv =>
    show CellInv E B (if _ then _ else c)
    split
    · next hx => rw [if_pos hx.1]; exact ⟨rfl, by unfold TWO60 at *; omega, by unfold V_MAX T_MAX TWO60 at *; omega⟩
    · exact hinv
  case unchanged => exact fun hno => if_neg fun hx => hno ⟨decide_eq_true hx.1, hx.2⟩
  case written =>
    intro hyes
    have hx := of_decide_eq_true hyes.1
    refine ⟨_, if_pos ⟨hx, hyes.2⟩, ?_⟩
    rw [if_pos hx]
    omega

def admittedCredit (E t1 t2 : Int) : List (Req × Outcome) → Int
  | [] => 0
  | p :: rest =>
    (if p.2.allowed = true ∧ t1 ≤ p.1.now ∧ p.1.now ≤ t2 then p.1.qty * E else 0) + admittedCredit E t1 t2 rest

def admittedCreditK (k : Key) (E t1 t2 : Int) : List (Req × Outcome) → Int
  | [] => 0
  | p :: rest =>
    (if p.1.key = k ∧ p.2.allowed = true ∧ t1 ≤ p.1.now ∧ p.1.now ≤ t2 then p.1.qty * E else 0)
      + admittedCreditK k E t1 t2 rest

theorem admittedCreditK_filter (k : Key) (E t1 t2 : Int) (l : List (Req × Outcome)) :
    admittedCreditK k E t1 t2 l = admittedCredit E t1 t2 (l.filter (fun p => p.1.key = k)) := by
  induction l with
  | nil => rfl
  | cons p rest ih =>
    by_cases hk : p.1.key = k
    · simp only [admittedCreditK, List.filter, hk, decide_true, admittedCredit, true_and, ih]
    · simp only [admittedCreditK, List.filter, hk, decide_false, false_and, if_false, ih, Int.zero_add]

def admittedTokensK (k : Key) (t1 t2 : Int) : List (Req × Outcome) → Int
  | [] => 0
  | p :: rest =>
    (if p.1.key = k ∧ p.2.allowed = true ∧ t1 ≤ p.1.now ∧ p.1.now ≤ t2 then p.1.qty else 0)
      + admittedTokensK k t1 t2 rest

theorem admittedCreditK_eq_tokens (k : Key) (E t1 t2 : Int) (l : List (Req × Outcome)) :
    admittedCreditK k E t1 t2 l = admittedTokensK k t1 t2 l * E := by
  induction l with
  | nil => simp [admittedCreditK, admittedTokensK]
  | cons p rest ih =>
    simp only [admittedCreditK, admittedTokensK, ih, Int.add_mul]
    split <;> simp

theorem tokens_le_of_credit_le {k : Key} {E B t1 t2 : Int} {l : List (Req × Outcome)} (hE : 0 < E)
    (h : admittedCreditK k E t1 t2 l ≤ B * E + (t2 - t1)) : admittedTokensK k t1 t2 l ≤ B + (t2 - t1) / E := by
  rw [admittedCreditK_eq_tokens] at h
  have h2 := (Int.le_ediv_iff_mul_le hE).mpr h
  rwa [Int.add_comm, Int.add_mul_ediv_right _ _ (by omega : E ≠ 0), Int.add_comm] at h2

def AllOK (ei : Int → Int → Int) (E B : Int) : List Req → Prop
  | [] => True
  | r :: rs => ReqOK E B r ∧ ei r.count r.period = E ∧ AllOK ei E B rs

theorem fixedD_allOK {ei : Int → Int → Int} {E B t0 : Int} {rs : List Req} (h : FixedD ei E B t0 rs) :
    AllOK ei E B rs := by
  induction rs generalizing t0 with
  | nil => trivial
  | cons r rs ih => exact ⟨h.1.reqOK, h.2.1, ih h.2.2⟩

theorem Cell.tatOr_le_max (d d' : Int) (c : Cell) : Cell.tatOr d c ≤ max (Cell.tatOr d' c) d := by
  cases c with
  | none => exact Int.le_max_right _ _
  | some p => exact Int.le_max_left _ _

/-- One admitted write in the potential argument.  `T1`, `Tn` stand for the stored TAT read with
    default `t1 - E` resp. `now - E`; the write moves it to `v ≥ max Tn (now - E) + p`, and
    `v ≤ now + τ` keeps what is admitted inside the window below `t2 + τ`. -/
theorem window_step {t1 t2 τ E now p T1 Tn v W : Int} (hp : 0 ≤ p) (hT : T1 ≤ max Tn (t1 - E))
    (h1 : Tn + p ≤ v) (h2 : now - E + p ≤ v) (h3 : v ≤ now + τ) :
    W ≤ max (t2 + τ - max v (t1 - E)) 0 →
    (if t1 ≤ now ∧ now ≤ t2 then p else 0) + W ≤ max (t2 + τ - max T1 (t1 - E)) 0 := by
  -- the floor `max tat (t1 - E)` only rises, and inside the window it rises by at least `p`
  have hM : max T1 (t1 - E) ≤ max v (t1 - E) := Int.max_le.mpr ⟨by omega, Int.le_max_right _ _⟩
  have hin : t1 ≤ now → max T1 (t1 - E) + p ≤ v := by omega
  have hv : v ≤ max v (t1 - E) := Int.le_max_left _ _
  -- the rest is about the two floors alone; every `max` left in sight doubles `omega`'s cases,
  -- and of the bound `R` to be shown only `_ ≤ R` and `0 ≤ R` are used
  clear hT h1 h2
  generalize max T1 (t1 - E) = M1 at *
  generalize max v (t1 - E) = M2 at *
  intro ih
  have hR := Int.le_max_left (t2 + τ - M1) 0
  have h0 := Int.le_max_right (t2 + τ - M1) 0
  generalize max (t2 + τ - M1) 0 = R at *
  split <;> omega

theorem window_any_order {ei : Int → Int → Int} {E B : Int} (rs : List Req) (c : Cell) (t1 t2 : Int)
    (h : AllOK ei E B rs) (hinv : CellInv E B c) :
    admittedCredit E t1 t2 (runTagged Cell.ops ei c rs)
      ≤ max (t2 + (B * E - E) - max (Cell.tatOr (t1 - E) c) (t1 - E)) 0 := by
  induction rs generalizing c with
  | nil => exact Int.le_max_right _ _
  | cons r rs ih =>
    obtain ⟨h1, h2, h3⟩ := h
    have f := cell_step_nonmono c r h1 hinv
    have ih' := ih _ h3 f.inv
    simp only [runTagged, admittedCredit, h2]
    by_cases hw : (rateLimitE Cell.ops c E r).2.1.allowed = true ∧ 0 < r.qty
    · obtain ⟨v, hc', hv1, hv2, hv3⟩ := f.written hw
      rw [hc'] at ih' ⊢
      simp only [hw.1, true_and]
      exact window_step (Int.mul_nonneg h1.valid.1 (by have := h1.dom.hE; omega))
        (Cell.tatOr_le_max _ _ c) hv1 hv2 hv3 ih'
    · -- nothing written: nothing admitted, or nothing asked for
      rw [f.unchanged hw] at ih' ⊢
      have h0 : (if (rateLimitE Cell.ops c E r).2.1.allowed = true ∧ t1 ≤ r.now ∧ r.now ≤ t2 then r.qty * E else 0) = 0 := by
        split
        · rename_i ha
          have : r.qty = 0 := by have := h1.valid.1; have : ¬ 0 < r.qty := fun hq => hw ⟨ha.1, hq⟩; omega
          rw [this, Int.zero_mul]
        · rfl
      rw [h0, Int.zero_add]
      exact ih'

theorem window_fresh {ei : Int → Int → Int} {E B : Int} (rs : List Req) (t1 t2 : Int)
    (h : AllOK ei E B rs) (hD : DomD E B) (h12 : t1 ≤ t2) :
    admittedCredit E t1 t2 (runTagged Cell.ops ei none rs) ≤ B * E + (t2 - t1) := by
  have := window_any_order rs none t1 t2 h trivial
  simp only [Cell.tatOr, Int.max_self] at this
  have := hD.E_le; have := hD.hE
  omega

end TcVerif
