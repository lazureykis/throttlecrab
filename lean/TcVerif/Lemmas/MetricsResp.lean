/-
  Which metrics event the RESP command layer records (`process_command` of redis/mod.rs, repaired
  classification `Resp.metricOutcome`).
-/
import TcVerif.Model.Metrics
import TcVerif.Lemmas.RespPlan

namespace TcVerif.Metrics
open TcVerif.Resp

/-- the call `record_request*(Transport::Redis, allowed, ..)` made for one RESP command:
    `v` the decoded command, `upper` the upper-cased command name, `a` the limiter's answer
    (`none` when the limiter was not asked) -/
def respEvent (v : Value) (upper : Option (List UInt8)) (a : Option ActorAnswer) : Event :=
  .request .redis (metricOutcome v upper a).1

/-- the key handed to the denied-key tracker together with that call -/
def respKey (v : Value) (upper : Option (List UInt8)) (a : Option ActorAnswer) :
    Option (List UInt8) :=
  (metricOutcome v upper a).2

theorem metric_allowed_false_iff (v : Value) (upper : Option (List UInt8))
    (a : Option ActorAnswer) :
    (metricOutcome v upper a).1 = false ↔
      ∃ req l r rs rt, plan v upper = .send req ∧ a = some (.ok false l r rs rt) := by
  unfold metricOutcome
  simp only
  split
  · next req l r rs rt hp =>
    simp only [true_iff]
    exact ⟨req, l, r, rs, rt, hp, rfl⟩
  · next hne =>
    simp only [Bool.true_eq_false, false_iff]
    rintro ⟨req, l, r, rs, rt, hp, rfl⟩
    exact hne req l r rs rt hp rfl

theorem metric_key_of_send {v : Value} {upper : Option (List UInt8)} {req : ThrottleReq}
    (a : Option ActorAnswer) (h : plan v upper = .send req) :
    (metricOutcome v upper a).2 = some req.key := by
  obtain ⟨c, rest, rfl, rfl, ht⟩ := plan_send_is_throttle h
  obtain ⟨x, rest', hx⟩ := handleThrottle_send_key ht
  cases hx
  rfl

end TcVerif.Metrics
