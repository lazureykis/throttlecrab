/-
  `rne` in a normal form over `rneDiv` (`rne_eq`: mantissa `rneM` at exponent `rneExp`, without a
  case split on the sign of the exponent).  From it `rne` commutes with scaling by powers of two
  (`rne_scale`), so for integers below 2^53 `F64.ofNat` is exact, `F64.mul` is `ofNat` of the
  product and `F64.div` is `rne` of the two integers; truncating that one rounded quotient gives
  the integer quotient (`toU64_rne`), which is `emissionInterval`.
-/
import TcVerif.Lemmas.Float
namespace TcVerif

/-- `scaledDiv` without the case split: one of the two powers is `2^0`. -/
theorem scaledDiv_eq (n d : Nat) (e : Int) :
    scaledDiv n d e = (n * 2 ^ (-e).toNat / (d * 2 ^ e.toNat),
      n * 2 ^ (-e).toNat % (d * 2 ^ e.toNat), d * 2 ^ e.toNat) := by
  unfold scaledDiv
  split
  · rw [show (-e).toNat = 0 by omega, Nat.pow_zero, Nat.mul_one]
  · rw [show e.toNat = 0 by omega, Nat.pow_zero, Nat.mul_one]

/-- the mantissa `rne` computes at exponent `e`, before the carry to `2^53` is renormalised -/
def rneM (n d : Nat) (e : Int) : Nat :=
  rneDiv (n * 2 ^ (-e).toNat) (d * 2 ^ e.toNat)

/-- the exponent `rne` rounds at (its `e`): `log2 n - log2 d - 52`, or one less if the quotient scaled to
    that exponent stays below `2^52` -/
def rneExp (n d : Nat) : Int :=
  if (scaledDiv n d (n.log2 - d.log2 - 52)).1 < P52 then n.log2 - d.log2 - 52 - 1
  else n.log2 - d.log2 - 52

theorem rne_eq (n d : Nat) (hn : n ≠ 0) :
    rne n d = (if rneM n d (rneExp n d) = P53 then ⟨P52, rneExp n d + 1⟩
      else ⟨rneM n d (rneExp n d), rneExp n d⟩) := by
  unfold rne rneExp rneM rneDiv
  rw [if_neg hn]
  simp only [scaledDiv_eq, Bool.or_eq_true, Bool.and_eq_true, decide_eq_true_eq]

theorem log2_mul_two_pow (N s : Nat) (hN : N ≠ 0) : (N * 2 ^ s).log2 = N.log2 + s := by
  have hT : 0 < 2 ^ s := Nat.two_pow_pos s
  have hne : N * 2 ^ s ≠ 0 := Nat.mul_ne_zero hN (Nat.ne_of_gt hT)
  rw [Nat.log2_eq_iff hne]
  constructor
  · rw [Nat.pow_add]; exact Nat.mul_le_mul_right _ (Nat.log2_self_le hN)
  · rw [Nat.add_right_comm, Nat.pow_add]
    exact Nat.mul_lt_mul_of_pos_right Nat.lt_log2_self hT

theorem scale_cross (n d : Nat) {x y x' y' : Nat} (h : x + y = x' + y') :
    n * 2 ^ x * (d * 2 ^ y) = n * 2 ^ x' * (d * 2 ^ y') := by
  rw [Nat.mul_mul_mul_comm, Nat.mul_mul_mul_comm n (2 ^ x'), ← Nat.pow_add, ← Nat.pow_add, h]

theorem scaled_shift (n d a b : Nat) (hd : 0 < d) (e' e : Int) (he : e' = e + a - b) :
    (scaledDiv (n * 2 ^ a) (d * 2 ^ b) e').1 = (scaledDiv n d e).1 ∧
    rneM (n * 2 ^ a) (d * 2 ^ b) e' = rneM n d e := by
  simp only [scaledDiv_eq, rneM]
  rw [Nat.mul_assoc n, Nat.mul_assoc d, ← Nat.pow_add, ← Nat.pow_add]
  have h1 := Int.toNat_sub_toNat_neg e
  have h2 := Int.toNat_sub_toNat_neg e'
  exact rneDiv_congr (Nat.mul_pos hd (Nat.two_pow_pos _)) (Nat.mul_pos hd (Nat.two_pow_pos _))
    (scale_cross n d (by omega))

theorem rne_scale (n d a b : Nat) (hn : n ≠ 0) (hd : d ≠ 0) :
    rne (n * 2 ^ a) (d * 2 ^ b) = ⟨(rne n d).m, (rne n d).e + a - b⟩ := by
  have hs := scaled_shift n d a b (Nat.pos_of_ne_zero hd)
  have hexp : rneExp (n * 2 ^ a) (d * 2 ^ b) = rneExp n d + a - b := by
    unfold rneExp
    rw [log2_mul_two_pow n a hn, log2_mul_two_pow d b hd,
      (hs _ (n.log2 - d.log2 - 52) (by omega)).1]
    split <;> omega
  rw [rne_eq _ _ (Nat.mul_ne_zero hn (Nat.ne_of_gt (Nat.two_pow_pos a))), rne_eq n d hn,
    (hs _ _ hexp).2, hexp]
  generalize rneM n d (rneExp n d) = m
  generalize rneExp n d = e
  split
  · exact congrArg (F64.mk P52) (show _ = e + 1 + ↑a - ↑b by omega)
  · rfl

theorem rneExp_le (n d : Nat) : rneExp n d ≤ n.log2 - d.log2 - 52 := by
  unfold rneExp
  split <;> omega

theorem scaled_neg (n d J : Nat) :
    (scaledDiv n d (-(J : Int))).1 = n * 2 ^ J / d ∧ rneM n d (-(J : Int)) = rneDiv (n * 2 ^ J) d := by
  simp only [scaledDiv_eq, rneM, Int.neg_neg, Int.toNat_natCast, Int.toNat_neg_natCast,
    Nat.pow_zero, Nat.mul_one, and_self]

theorem ofNat_exact (N : Nat) (hN : N ≠ 0) (hlt : N < P53) :
    F64.ofNat N = ⟨N * 2 ^ (52 - N.log2), -((52 - N.log2 : Nat) : Int)⟩ := by
  have hk : N.log2 < 53 := (Nat.log2_lt hN).2 hlt
  obtain ⟨hlo, hhi⟩ : P52 ≤ N * 2 ^ (52 - N.log2) ∧ N * 2 ^ (52 - N.log2) < P53 :=
    (Nat.log2_eq_iff (k := 52) (Nat.mul_ne_zero hN (Nat.ne_of_gt (Nat.two_pow_pos _)))).1
      (by rw [log2_mul_two_pow N _ hN]; omega)
  have he0 : (N.log2 : Int) - Nat.log2 1 - 52 = -((52 - N.log2 : Nat) : Int) := by
    rw [show Nat.log2 1 = 0 from rfl]; omega
  have hexp : rneExp N 1 = -((52 - N.log2 : Nat) : Int) := by
    unfold rneExp
    rw [he0, (scaled_neg _ _ _).1, Nat.div_one, if_neg (Nat.not_lt.2 hlo)]
  unfold F64.ofNat
  rw [rne_eq N 1 hN, hexp, (scaled_neg _ _ _).2, rneDiv_of_mod_eq_zero (by decide) (Nat.mod_one _),
    Nat.div_one, if_neg (Nat.ne_of_lt hhi)]

theorem mul_ofNat (a b : Nat) (ha : a ≠ 0) (hb : b ≠ 0) (ha53 : a < P53) (hb53 : b < P53) :
    F64.mul (F64.ofNat a) (F64.ofNat b) = F64.ofNat (a * b) := by
  have h := rne_scale (a * b) 1 ((52 - a.log2) + (52 - b.log2)) 0 (Nat.mul_ne_zero ha hb)
    (by decide)
  rw [Nat.pow_add, ← Nat.mul_mul_mul_comm] at h
  change rne _ 1 = _ at h
  rw [ofNat_exact a ha ha53, ofNat_exact b hb hb53]
  unfold F64.mul F64.ofNat
  rw [h]
  exact congrArg (F64.mk _) (show _ = (rne (a * b) 1).e by dsimp only; omega)

theorem div_ofNat (a b : Nat) (ha : a ≠ 0) (hb : b ≠ 0) (ha53 : a < P53) (hb53 : b < P53) :
    F64.div (F64.ofNat a) (F64.ofNat b) = rne a b := by
  rw [ofNat_exact a ha ha53, ofNat_exact b hb hb53]
  unfold F64.div
  rw [rne_scale a b _ _ ha hb]
  exact congrArg (F64.mk _) (show _ = (rne a b).e by dsimp only; omega)

def U64MAX : Nat := 18446744073709551615

theorem toU64_eq (m : Nat) (e : Int) :
    F64.toU64 ⟨m, e⟩ = if (scaledDiv m 1 (-e)).1 > U64MAX then U64MAX
      else (scaledDiv m 1 (-e)).1 := by
  rw [scaledDiv_eq, Int.neg_neg, Nat.one_mul]
  unfold F64.toU64
  dsimp only
  split
  · rw [show (-e).toNat = 0 by omega, Nat.pow_zero, Nat.div_one]; rfl
  · rw [show e.toNat = 0 by omega, Nat.pow_zero, Nat.mul_one]; rfl

/-- renormalising a carry does not change the value -/
theorem toU64_succ (m : Nat) (e : Int) : F64.toU64 ⟨m, e + 1⟩ = F64.toU64 ⟨m * 2, e⟩ := by
  rw [toU64_eq, toU64_eq]
  exact (scaled_shift m 1 1 0 (by decide) (-e) (-(e + 1)) (by omega)).1 ▸ rfl

theorem toU64_shift (m J : Nat) (h : m / 2 ^ J ≤ U64MAX) :
    F64.toU64 ⟨m, -(J : Int)⟩ = m / 2 ^ J := by
  simp only [toU64_eq, scaledDiv_eq, Int.neg_neg, Int.toNat_natCast, Int.toNat_neg_natCast,
    Nat.pow_zero, Nat.mul_one, Nat.one_mul]
  exact if_neg (Nat.not_lt.2 h)

/-- the exponent `rne` picks is some `-J` with `c < 2^(J+1)`, which is when truncation undoes the
    rounding (`rneDiv_shift_floor`) -/
theorem toU64_rne (P c : Nat) (hP : P ≠ 0) (hP53 : P < P53) (hc : c ≠ 0) :
    F64.toU64 (rne P c) = P / c := by
  have hk : P.log2 < 53 := (Nat.log2_lt hP).2 hP53
  have hle := rneExp_le P c
  obtain ⟨J, hJ⟩ := Int.exists_eq_neg_ofNat (show rneExp P c ≤ 0 by omega)
  rw [hJ] at hle
  have hfloor := rneDiv_shift_floor P c J (Nat.pos_of_ne_zero hc) ((Nat.log2_lt hc).1 (by omega))
  have hval : F64.toU64 ⟨rneDiv (P * 2 ^ J) c, -(J : Int)⟩ = P / c := by
    have hmax : P / c ≤ U64MAX :=
      Nat.le_trans (Nat.div_le_self P c) (Nat.le_trans (Nat.le_of_lt hP53) (by decide))
    rw [toU64_shift _ _ (hfloor ▸ hmax), hfloor]
  rw [rne_eq P c hP, hJ, (scaled_neg P c J).2]
  split
  next hm => rw [toU64_succ, show P52 * 2 = P53 from rfl, ← hm, hval]
  next => exact hval

theorem emissionInterval_int (c p : Int) (hc : 0 < c) (hp : 0 < p)
    (hP : p * 1000000000 < 9007199254740992) (hc53 : c < 9007199254740992) :
    emissionInterval c p = p * 1000000000 / c := by
  obtain ⟨cn, rfl⟩ := Int.eq_ofNat_of_zero_le (Int.le_of_lt hc)
  obtain ⟨pn, rfl⟩ := Int.eq_ofNat_of_zero_le (Int.le_of_lt hp)
  have hns : 0 < Gen.NS_PER_SEC := by decide
  -- `↑(a * b)`, `↑(a / b)` and the cast of a literal reduce to the `Int` operations, so the bounds carry
  -- over as they stand, and so does the result (the closing `rfl`)
  have hP' : pn * Gen.NS_PER_SEC < P53 := Int.ofNat_lt.1 hP
  have hP0 : pn * Gen.NS_PER_SEC ≠ 0 := Nat.mul_ne_zero (by omega) (Nat.ne_of_gt hns)
  unfold emissionInterval
  rw [if_neg (by omega)]
  simp only [Int.toNat_natCast]
  rw [mul_ofNat pn _ (by omega) (Nat.ne_of_gt hns)
      (Nat.lt_of_le_of_lt (Nat.le_mul_of_pos_right pn hns) hP') (by decide),
    div_ofNat _ cn hP0 (by omega) hP' (Int.ofNat_lt.1 hc53), toU64_rne _ cn hP0 hP' (by omega)]
  rfl

end TcVerif
