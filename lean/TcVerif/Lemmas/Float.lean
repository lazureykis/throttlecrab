/-
  Integer round-half-even division `rneDiv`; the rounding of a quotient scaled by `2^J` never crosses
  an integer (`rneDiv_shift_floor`).
-/
import TcVerif.Model.SoftFloat
namespace TcVerif

/-- round-half-even of the rational `a/d` to an integer -/
def rneDiv (a d : Nat) : Nat :=
  if 2 * (a % d) > d ∨ (2 * (a % d) = d ∧ (a / d) % 2 = 1) then a / d + 1 else a / d

theorem rneDiv_of_mod_eq_zero {a d : Nat} (hd : 0 < d) (h : a % d = 0) : rneDiv a d = a / d := by
  unfold rneDiv
  rw [h, if_neg (by omega)]

theorem rneDiv_mul_right (a d g : Nat) (hg : 0 < g) : rneDiv (a * g) (d * g) = rneDiv a d := by
  unfold rneDiv
  rw [Nat.mul_div_mul_right _ _ hg, Nat.mul_mod_mul_right, ← Nat.mul_assoc]
  simp only [gt_iff_lt, Nat.mul_lt_mul_right hg, Nat.mul_right_cancel_iff hg]

theorem rneDiv_congr {a d a' d' : Nat} (hd : 0 < d) (hd' : 0 < d') (h : a * d' = a' * d) :
    a / d = a' / d' ∧ rneDiv a d = rneDiv a' d' := by
  rw [← Nat.mul_div_mul_right a d hd', ← rneDiv_mul_right a d d' hd', h, Nat.mul_comm d d',
    Nat.mul_div_mul_right a' d' hd, rneDiv_mul_right a' d' d hd]
  exact ⟨rfl, rfl⟩

theorem rneDiv_ge (a d : Nat) : a / d ≤ rneDiv a d := by
  unfold rneDiv; split <;> omega

theorem rneDiv_le (a d : Nat) : rneDiv a d ≤ a / d + 1 := by
  unfold rneDiv; split <;> omega

/-- `rneDiv a d ≤ a/d + 1/2` -/
theorem two_mul_rneDiv_le (a d : Nat) : 2 * (d * rneDiv a d) ≤ 2 * a + d := by
  have h := Nat.div_add_mod a d
  unfold rneDiv
  split
  · rw [Nat.mul_add, Nat.mul_one]; omega
  · omega

/-- Dropping the `J` low bits undoes the rounding of `P·2^J / c` as soon as `c < 2^(J+1)`: the distance
    from `P/c` to the next integer is at least `1/c`, which exceeds half a unit `2^-(J+1)` of the
    scaled grid. -/
theorem rneDiv_shift_floor (P c J : Nat) (hc : 0 < c) (hlt : c < 2 ^ (J + 1)) :
    rneDiv (P * 2 ^ J) c / 2 ^ J = P / c := by
  have hT : 0 < 2 ^ J := Nat.two_pow_pos J
  apply Nat.le_antisymm
  · -- `2c·rneDiv ≤ 2·P·2^J + c < 2·(P + 1)·2^J ≤ 2c·(P/c + 1)·2^J`
    rw [← Nat.lt_add_one_iff, Nat.div_lt_iff_lt_mul hT]
    apply Nat.lt_of_mul_lt_mul_left (a := c)
    have h1 := two_mul_rneDiv_le (P * 2 ^ J) c
    have h2 : (P + 1) * 2 ^ J ≤ c * (P / c + 1) * 2 ^ J :=
      Nat.mul_le_mul_right _ (Nat.lt_mul_div_succ P hc)
    rw [Nat.add_mul, Nat.one_mul, Nat.mul_assoc] at h2
    rw [Nat.pow_succ] at hlt
    omega
  · calc P / c = P * 2 ^ J / c / 2 ^ J := by
          rw [Nat.div_div_eq_div_mul, Nat.mul_div_mul_right _ _ hT]
      _ ≤ _ := Nat.div_le_div_right (rneDiv_ge _ _)

end TcVerif
