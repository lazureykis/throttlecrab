/-
  The list functions of the actor model by themselves, without the transition system: the
  projections `procLog` / `enqLog` of an event log, the one-shot slots (`findReply` / `dropReply`
  are core `find?` / `filter`), `seqRun`.
-/
import TcVerif.Model.Actor
namespace TcVerif.Actor
variable {L Rq Rs : Type}

theorem mem_take_iff {α : Type} {l : List α} {k : Nat} {x : α} :
    x ∈ l.take k ↔ ∃ j, j < k ∧ l[j]? = some x := by
  simp only [List.mem_iff_getElem?, List.getElem?_take]
  constructor
  · rintro ⟨j, hj⟩
    split at hj
    · exact ⟨j, ‹_›, hj⟩
    · cases hj
  · rintro ⟨j, hlt, hj⟩
    exact ⟨j, by rw [if_pos hlt]; exact hj⟩

theorem nodup_map_getElem?_inj {α β : Type} {f : α → β} {l : List α} (hn : (l.map f).Nodup)
    {i j : Nat} {x y : α} (hi : l[i]? = some x) (hj : l[j]? = some y) (hxy : f x = f y) :
    i = j := by
  have h1 : (l.map f)[i]? = (l.map f)[j]? := by
    rw [List.getElem?_map, List.getElem?_map, hi, hj]
    exact congrArg some hxy
  exact (List.getElem?_inj (by simpa using (List.getElem?_eq_some_iff.mp hi).1) hn).mp h1

@[simp] theorem procLog_append (l l' : List (Event Rq Rs)) :
    procLog (l ++ l') = procLog l ++ procLog l' := by
  fun_induction procLog l with
  | case1 => rfl
  | case2 id r rs rest ih => simp only [List.cons_append, procLog, ih]
  | case3 x rest hne ih => rw [List.cons_append, procLog.eq_3 _ _ hne, ih]

@[simp] theorem enqLog_append (l l' : List (Event Rq Rs)) :
    enqLog (l ++ l') = enqLog l ++ enqLog l' := by
  fun_induction enqLog l with
  | case1 => rfl
  | case2 id r rest ih => simp only [List.cons_append, enqLog, ih]
  | case3 x rest hne ih => rw [List.cons_append, enqLog.eq_3 _ _ hne, ih]

theorem mem_procLog {l : List (Event Rq Rs)} {id : Id} {r : Rq} {rs : Rs} :
    (id, r, rs) ∈ procLog l ↔ Event.proc id r rs ∈ l := by
  fun_induction procLog l with
  | case1 => simp
  | case2 id' r' rs' rest ih => simp [ih]
  | case3 x rest hne ih =>
    rw [ih, List.mem_cons]
    exact ⟨.inr, fun h => h.resolve_left fun h => hne _ _ _ h.symm⟩

theorem mem_enqLog {l : List (Event Rq Rs)} {id : Id} {r : Rq} :
    (id, r) ∈ enqLog l ↔ Event.enq id r ∈ l := by
  fun_induction enqLog l with
  | case1 => simp
  | case2 id' r' rest ih => simp [ih]
  | case3 x rest hne ih =>
    rw [ih, List.mem_cons]
    exact ⟨.inr, fun h => h.resolve_left fun h => hne _ _ h.symm⟩

/-
  `enqLog` and `procLog` distribute over `++`; so an event that contributes `b` to the projection
  sits there at the index "length of the projection of what precedes the event".
-/
section
variable {β : Type} {P : List (Event Rq Rs) → List β} (hP : ∀ l l', P (l ++ l') = P l ++ P l')
include hP

theorem proj_getElem? {l : List (Event Rq Rs)} {p : Nat} {e : Event Rq Rs} {b : β}
    (hp : l[p]? = some e) (he : P [e] = [b]) : (P l)[(P (l.take p)).length]? = some b := by
  obtain ⟨hlt, rfl⟩ := List.getElem?_eq_some_iff.mp hp
  have hl : P l = P (l.take p) ++ b :: P (l.drop (p + 1)) := by
    rw [← List.singleton_append, ← he, ← hP, ← hP, List.singleton_append,
      ← List.drop_eq_getElem_cons hlt, List.take_append_drop]
  rw [hl, List.getElem?_append_right (Nat.le_refl _), Nat.sub_self]
  rfl

theorem proj_lt {l : List (Event Rq Rs)} {p q : Nat} {e : Event Rq Rs} {b : β}
    (hp : l[p]? = some e) (he : P [e] = [b]) (hpq : p < q) :
    (P (l.take p)).length < (P (l.take q)).length := by
  have := proj_getElem? hP (l := l.take q) (p := p)
    (by rw [List.getElem?_take, if_pos hpq]; exact hp) he
  rw [List.take_take, Nat.min_eq_left (Nat.le_of_lt hpq)] at this
  exact (List.getElem?_eq_some_iff.mp this).1

end

theorem procLog_lt_of_log_lt {l : List (Event Rq Rs)} (hn : ((procLog l).map (·.1)).Nodup)
    {a b : Nat} {x y : Id × Rq × Rs} (ha : (procLog l)[a]? = some x) (hb : (procLog l)[b]? = some y)
    (hord : ∀ p q : Nat, l[p]? = some (.proc x.1 x.2.1 x.2.2) →
      l[q]? = some (.proc y.1 y.2.1 y.2.2) → p < q) :
    a < b := by
  obtain ⟨p, hp⟩ := List.getElem?_of_mem (mem_procLog.mp (List.mem_of_getElem? ha))
  obtain ⟨q, hq⟩ := List.getElem?_of_mem (mem_procLog.mp (List.mem_of_getElem? hb))
  rw [nodup_map_getElem?_inj hn ha (proj_getElem? procLog_append hp rfl) rfl,
    nodup_map_getElem?_inj hn hb (proj_getElem? procLog_append hq rfl) rfl]
  exact proj_lt procLog_append hp rfl (hord p q hp hq)

theorem dropReply_eq_filter (id : Id) (l : List (Id × Rs)) :
    dropReply id l = l.filter (·.1 ≠ id) := by
  fun_induction dropReply id l with
  | case1 => rfl
  | case2 p rest h ih => rw [List.filter_cons_of_neg (by simpa using h), ih]
  | case3 p rest h ih => rw [List.filter_cons_of_pos (by simpa using h), ih]

theorem mem_dropReply {id : Id} {p : Id × Rs} {l : List (Id × Rs)} :
    p ∈ dropReply id l ↔ p ∈ l ∧ p.1 ≠ id := by
  simp [dropReply_eq_filter]

theorem findReply_eq_find? (id : Id) (l : List (Id × Rs)) :
    findReply id l = (l.find? (·.1 = id)).map (·.2) := by
  fun_induction findReply id l with
  | case1 => rfl
  | case2 p rest h => rw [List.find?_cons_of_pos (by simpa using h)]; rfl
  | case3 p rest h ih => rw [List.find?_cons_of_neg (by simpa using h), ih]

theorem mem_of_findReply {id : Id} {rs : Rs} {l : List (Id × Rs)} (h : findReply id l = some rs) :
    (id, rs) ∈ l := by
  obtain ⟨p, hp, rfl⟩ := Option.map_eq_some_iff.mp (findReply_eq_find? id l ▸ h)
  have := List.find?_some hp
  simp only [decide_eq_true_eq] at this
  exact this ▸ List.mem_of_find?_eq_some hp

theorem findReply_isSome_of_mem {id : Id} {rs : Rs} {l : List (Id × Rs)} (h : (id, rs) ∈ l) :
    ∃ rs', findReply id l = some rs' := by
  rw [findReply_eq_find?, ← Option.isSome_iff_exists, Option.isSome_map, List.find?_isSome]
  exact ⟨_, h, by simp⟩

theorem findReply_append_new {id : Id} {rs : Rs} {l : List (Id × Rs)} (hn : ∀ o, (id, o) ∉ l) :
    findReply id (l ++ [(id, rs)]) = some rs := by
  have : l.find? (·.1 = id) = none :=
    List.find?_eq_none.mpr fun p hp h =>
      hn p.2 (by simp only [decide_eq_true_eq] at h; exact h ▸ hp)
  simp [findReply_eq_find?, this]

theorem findReply_dropReply_ne {id id' : Id} (hne : id' ≠ id) (l : List (Id × Rs)) :
    findReply id' (dropReply id l) = findReply id' l := by
  simp only [findReply_eq_find?, dropReply_eq_filter, List.find?_filter]
  congr 2
  funext p
  by_cases h : p.1 = id' <;> simp [h, hne]

theorem seqRun_snoc {lim : Limiter L Rq Rs} {l l' l'' : L} {rs : List Rq} {os : List Rs}
    {r : Rq} {o : Rs} (h1 : seqRun lim l rs = some (l', os)) (h2 : lim.step l' r = some (l'', o)) :
    seqRun lim l (rs ++ [r]) = some (l'', os ++ [o]) := by
  fun_induction seqRun lim l rs generalizing os with
  | case1 l => cases h1; simp [seqRun, h2]
  | case2 | case3 => cases h1
  | case4 l x rest l1 o1 hx lf os' hrest ih =>
    cases h1
    simp [seqRun, hx, ih hrest]

theorem seqRun_length {lim : Limiter L Rq Rs} {l lf : L} {rs : List Rq} {os : List Rs}
    (h : seqRun lim l rs = some (lf, os)) : os.length = rs.length := by
  fun_induction seqRun lim l rs generalizing os with
  | case1 => cases h; rfl
  | case2 | case3 => cases h
  | case4 l x rest l1 o1 hx lf' os' hrest ih =>
    cases h
    simp [ih hrest]

end TcVerif.Actor
