/-
  `decision` on the whole input domain of C08 (`ReqT`), where the emission interval may be 0 or
  exceed `i64::MAX`.  Saturation does happen here; the `ReqT.*` lemmas give ranges and the order
  facts that survive it.  Together they make a result `Outcome.wellFormed`, which is what C08 says
  of it (`decision_wellFormed`); `rlLoop_outcome` carries that through the retry loop over an
  ARBITRARY store (well formed, or the internal error), and `refusingStore` is a store on which the
  error does come out.
-/
import TcVerif.Lemmas.Decision
import TcVerif.Lemmas.Loop
namespace TcVerif

/-- one call anywhere in the input domain of C08; `burst0` and `qty0` are what the validation lets
    through -/
structure ReqT (E : Int) (r : Req) (tv : Option Int) : Prop where
  hE : 0 ≤ E
  now0 : 0 ≤ r.now
  now1 : r.now ≤ T2200
  burst0 : 0 < r.burst
  qty0 : 0 ≤ r.qty
  stored : ∀ v, tv = some v → inI64 v

theorem mul_pred_add (e B : Int) : e * (B - 1) + e = e * B := by
  rw [Int.mul_sub, Int.mul_one, Int.sub_add_cancel]

theorem tdiv_le_burst {e τ B room : Int} (he : 0 < e) (hτ : τ ≤ e * (B - 1)) (hroom : room ≤ τ + e) :
    Int.tdiv room e ≤ B := by
  have := mul_pred_add e B
  have := Int.tdiv_le_tdiv he (show room ≤ e * B by omega)
  rwa [Int.mul_tdiv_cancel_left B (by omega)] at this

namespace ReqT
variable {E : Int} {r : Req} {tv : Option Int} (h : ReqT E r tv)
include h

theorem tau_facts :
    0 ≤ tauNs E r.burst ∧ tauNs E r.burst ≤ I64_MAX ∧ tauNs E r.burst ≤ eNs E * (r.burst - 1) ∧
    (tauNs E r.burst = eNs E * (r.burst - 1) ∨ tauNs E r.burst = I64_MAX) :=
  satMul_nonneg (eNs_range h.hE).1 (by have := h.burst0; omega)

theorem inc_facts :
    0 ≤ dInc E r ∧ dInc E r ≤ I64_MAX ∧ dInc E r ≤ eNs E * r.qty ∧
    (dInc E r = eNs E * r.qty ∨ dInc E r = I64_MAX) :=
  satMul_nonneg (eNs_range h.hE).1 h.qty0

/-- the bounds stand as `range_sub` forms them; `clamp_id`'s `decide` evaluates them -/
theorem minTat_range : 0 - I64_MAX ≤ r.now - eNs E ∧ r.now - eNs E ≤ T2200 - 0 :=
  range_sub ⟨h.now0, h.now1⟩ (eNs_range h.hE)

theorem minTat_eq : dMinTat E r = r.now - eNs E := clamp_id h.minTat_range

theorem tat_facts :
    r.now - eNs E ≤ dTat E r tv ∧ dTat E r tv ≤ I64_MAX ∧
    (tv = none → dTat E r tv = r.now - eNs E) := by
  unfold dTat
  rw [h.minTat_eq]
  exact ⟨le_effTat _ _, effTat_le (Int.le_trans h.minTat_range.2 (by decide)) fun v hv => (h.stored v hv).2,
    fun hh => by rw [hh]; rfl⟩

theorem new_facts :
    dTat E r tv ≤ dNew E r tv ∧ dNew E r tv ≤ I64_MAX ∧ dNew E r tv ≤ dTat E r tv + dInc E r := by
  obtain ⟨t1, t2, _⟩ := h.tat_facts
  have i0 := h.inc_facts.1
  exact ⟨clamp_ge_of_ge t2 (Int.le_add_of_nonneg_right i0), (clamp_range _).2,
    clamp_le_of_le (Int.add_le_add (Int.le_trans h.minTat_range.1 t1) i0) (Int.le_refl _)⟩

theorem cur_facts : r.now - eNs E ≤ dCur E r tv ∧ dCur E r tv ≤ I64_MAX := by
  obtain ⟨t1, t2, _⟩ := h.tat_facts
  obtain ⟨n1, n2, _⟩ := h.new_facts
  unfold dCur
  split
  · exact ⟨Int.le_trans t1 n1, n2⟩
  · exact ⟨t1, t2⟩

theorem pad_facts : 0 ≤ dPad E r ∧ dPad E r ≤ I64_MAX :=
  have ⟨he0, he1⟩ := eNs_range h.hE
  have ⟨_, hτ1, _⟩ := h.tau_facts
  ⟨Int.le_trans he0 (Int.le_max_right _ _), Int.max_le.mpr ⟨hτ1, he1⟩⟩

theorem room_le : dRoom E r tv ≤ tauNs E r.burst + eNs E := by
  have t0 := h.tau_facts.1
  have := h.cur_facts.1
  have : satAdd r.now (tauNs E r.burst) ≤ r.now + tauNs E r.burst :=
    clamp_le_of_le (Int.add_nonneg h.now0 t0) (Int.le_refl _)
  exact clamp_le_of_le (Int.add_nonneg t0 (eNs_range h.hE).1) (by omega)

theorem remaining_range : 0 ≤ dRemaining E r tv ∧ dRemaining E r tv ≤ r.burst := by
  have := h.burst0
  unfold dRemaining
  split
  · next hpos =>
    obtain ⟨-, -, hτ, -⟩ := h.tau_facts
    have := tdiv_le_burst hpos hτ h.room_le
    omega
  · omega

end ReqT

theorem ReqT.fresh_allowed {E : Int} {r : Req} (h : ReqT E r none) (hq : r.qty ≤ r.burst) :
    dAllowed E r none = true := by
  have hn0 := h.now0
  obtain ⟨-, -, -, hτ⟩ := h.tau_facts
  obtain ⟨-, hnew, hstep⟩ := h.new_facts
  have hkey : dNew E r none - tauNs E r.burst ≤ r.now := by
    rcases hτ with hτ | hτ <;> rw [hτ]
    · -- exact tolerance: `new ≤ now - e + e·q` and `e·q ≤ e·B = e·(B-1) + e`
      obtain ⟨-, -, htat⟩ := h.tat_facts
      obtain ⟨-, -, hinc, -⟩ := h.inc_facts
      have := htat rfl
      have := Int.mul_le_mul_of_nonneg_left hq (eNs_range h.hE).1
      have := mul_pred_add (eNs E) r.burst
      omega
    · -- saturated tolerance: any i64 minus `i64::MAX` is ≤ 0
      omega
  unfold dAllowed
  rw [decide_eq_true_iff]
  exact clamp_le_of_le hn0 hkey

/-- a result as C08 describes it -/
def Outcome.wellFormed (r : Req) (o : Outcome) : Prop :=
  o.isOk = true ∧ o.limit = r.burst ∧ 0 ≤ o.remaining ∧ o.remaining ≤ o.limit ∧
  0 ≤ o.resetNs ∧ o.resetNs ≤ I64_MAX ∧ 0 ≤ o.retryNs ∧ o.retryNs ≤ I64_MAX ∧
  (o.retryNs = 0 ↔ o.allowed = true)

instance (r : Req) (o : Outcome) : Decidable (Outcome.wellFormed r o) := by
  unfold Outcome.wellFormed; exact inferInstance

theorem decision_wellFormed {E : Int} {r : Req} {tv : Option Int} (h : ReqT E r tv) :
    Outcome.wellFormed r (decision E r tv).outcome := by
  rw [decision_eq]
  have h1 := h.remaining_range
  have h2 := dReset_range E r tv
  have h3 := dRetry_range E r tv
  exact ⟨rfl, rfl, h1.1, h1.2, h2.1, h2.2, h3.1, h3.2, dRetry_eq_zero_iff⟩

theorem rlLoop_outcome {σ : Type} (S : StoreOps σ) (E : Int) (r : Req)
    (hS : ∀ s, ReqT E r (S.get s r.key r.now)) (fuel : Nat) (s : σ) (tr : List StoreOp) :
    (rlLoop S fuel s E r tr).2.1 = .errInternal ∨ Outcome.wellFormed r (rlLoop S fuel s E r tr).2.1 := by
  induction fuel generalizing s tr with
  | zero => exact Or.inl rfl
  | succ n ih =>
    have hwf := decision_wellFormed (hS s)
    rw [rlLoop_succ]
    dsimp only
    split
    · split
      · exact Or.inr hwf
      · exact ih _ _
    · exact Or.inr hwf

/-- with this store the internal error is reached: the disjunction of `C08_any_store` is not vacuous -/
def refusingStore : StoreOps Unit where
  get _ _ _ := none
  cas s _ _ _ _ _ := (s, false)
  setnx s _ _ _ _ := (s, false)

end TcVerif
