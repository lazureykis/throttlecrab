/-
  `rateLimitE` and `rlLoop` as equations over an arbitrary store; a call whose write, if one is
  due, succeeds is exactly one pass of the loop.
-/
import TcVerif.Model.Gcra
namespace TcVerif

/-- the request passes the parameter validation of `rate_limit` -/
def Req.valid (r : Req) : Prop := 0 ≤ r.qty ∧ 0 < r.burst ∧ 0 < r.count ∧ 0 < r.period

instance (r : Req) : Decidable r.valid := by unfold Req.valid; exact inferInstance

variable {σ : Type}

theorem rateLimitE_valid (S : StoreOps σ) (s : σ) (E : Int) (r : Req) (hv : r.valid) :
    rateLimitE S s E r = rlLoop S MAX_RETRIES s E r [] := by
  obtain ⟨h1, h2, h3, h4⟩ := hv
  rw [rateLimitE, if_neg (by omega), if_neg (by omega)]

theorem rateLimitE_invalid (S : StoreOps σ) (s : σ) (E : Int) (r : Req) (hv : ¬ r.valid) :
    rateLimitE S s E r =
      (s, if r.qty < 0 then .errNegativeQuantity else .errInvalidRateLimit, []) := by
  rw [rateLimitE]
  split
  · rfl
  · rw [if_pos (by unfold Req.valid at hv; omega)]

/-- the write `rate_limit` issues after reading `tv` -/
def StoreOps.put (S : StoreOps σ) (s : σ) (k : Key) (tv : Option Int) (new ttl now : Int) : σ × Bool :=
  match tv with
  | some old => S.cas s k old new ttl now
  | none => S.setnx s k new ttl now

def StoreOp.write (k : Key) (tv : Option Int) (new ttl now : Int) (res : Bool) : StoreOp :=
  match tv with
  | some old => .cas k old new ttl now res
  | none => .setnx k new ttl now res

def StoreOp.ttl? : StoreOp → Option Int
  | .get _ _ _ => none
  | .cas _ _ _ ttl _ _ => some ttl
  | .setnx _ _ ttl _ _ => some ttl

theorem rlLoop_succ (S : StoreOps σ) (n : Nat) (s : σ) (E : Int) (r : Req) (tr : List StoreOp) :
    rlLoop S (n + 1) s E r tr =
      let tv := S.get s r.key r.now
      let d := decision E r tv
      let w := S.put s r.key tv d.newTat d.ttl r.now
      let tr' := tr ++ [StoreOp.get r.key r.now tv] ++ [StoreOp.write r.key tv d.newTat d.ttl r.now w.2]
      if d.write then (if w.2 then (w.1, d.outcome, tr') else rlLoop S n w.1 E r tr')
      else (s, d.outcome, tr ++ [StoreOp.get r.key r.now tv]) := by
  simp only [rlLoop]
  cases S.get s r.key r.now <;> rfl

/-- the trace of one pass that read `tv`: the `get`, then the write if one is due, recorded as successful -/
def passOps (E : Int) (r : Req) (tv : Option Int) : List StoreOp :=
  StoreOp.get r.key r.now tv ::
    (if (decision E r tv).write
     then [StoreOp.write r.key tv (decision E r tv).newTat (decision E r tv).ttl r.now true] else [])

theorem rateLimitE_one_pass (S : StoreOps σ) (s : σ) (E : Int) (r : Req) (hv : r.valid)
    (hw : (decision E r (S.get s r.key r.now)).write = true →
      (S.put s r.key (S.get s r.key r.now) (decision E r (S.get s r.key r.now)).newTat
        (decision E r (S.get s r.key r.now)).ttl r.now).2 = true) :
    rateLimitE S s E r =
      (if (decision E r (S.get s r.key r.now)).write
         then (S.put s r.key (S.get s r.key r.now) (decision E r (S.get s r.key r.now)).newTat
                (decision E r (S.get s r.key r.now)).ttl r.now).1
         else s,
       (decision E r (S.get s r.key r.now)).outcome, passOps E r (S.get s r.key r.now)) := by
  -- one pass is all this asks of the generated constant: it holds as long as `MAX_RETRIES ≥ 1`
  rw [rateLimitE_valid S s E r hv, show MAX_RETRIES = MAX_RETRIES - 1 + 1 from rfl, rlLoop_succ]
  simp only [passOps]
  cases hd : (decision E r (S.get s r.key r.now)).write with
  | true => simp [hw hd]
  | false => simp

end TcVerif
