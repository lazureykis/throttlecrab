/-
  Order and uniqueness of events in the log of the actor LTS (positions are list indices of the
  append-only log).  "`e'` happened before `e`" is read off the state in which `e` was logged
  (`Reach.before`): its guard held there, the state invariants of ActorInv turn the guard into an
  event `e'` of that state's log, and that log is the part of the log before `e`.  Per client, the
  order of the log is the order of the ticks (`tick_lt_iff`); across clients, requests are processed
  in the order of their `enq` (`fifo_pos`); program order and real-time precedence are the two
  together.
-/
import TcVerif.Lemmas.ActorInv
namespace TcVerif.Actor
variable {L Rq Rs : Type}
variable {M : Sys L Rq Rs} {n : Nat} {l0 : L} {s : State L Rq Rs}

theorem Reach.before (h : Reach M n l0 s) {k : Nat} {e : Event Rq Rs} (hk : s.log[k]? = some e) :
    ∃ s0, Reach M n l0 s0 ∧ e.pre M s0 ∧ s0.log = s.log.take k ∧
      ∀ {c t}, e.tick = some (c, t) → ∃ cl cl', s0.clients[c]? = some cl ∧ e.moves c cl cl' := by
  induction h with
  | init => cases hk
  | @step s s' lb hs hst ih =>
    obtain ⟨e0, hpre, hlog, hcl⟩ := hst.shape
    rw [hlog] at hk ⊢
    rcases Nat.lt_or_ge k s.log.length with hlt | hge
    · rw [List.getElem?_append_left hlt] at hk
      obtain ⟨s0, h0, hp, hl, hc⟩ := ih hk
      exact ⟨s0, h0, hp, by rw [List.take_append_of_le_length (Nat.le_of_lt hlt)]; exact hl, hc⟩
    · have hk1 := (List.getElem?_eq_some_iff.mp hk).1
      rw [List.length_append, List.length_singleton] at hk1
      cases Nat.le_antisymm (Nat.le_of_lt_succ hk1) hge
      rw [List.getElem?_concat_length] at hk
      cases hk
      refine ⟨s, hs, hpre, List.take_left.symm, fun {c t} ht => ?_⟩
      rcases hcl c with ⟨-, hne⟩ | ⟨cl, cl', hc, -, hmv⟩
      · exact absurd ht (hne t)
      · exact ⟨cl, cl', hc, hmv⟩

theorem tick_lt_iff (h : Reach M n l0 s) {i j c t1 t2 : Nat} {e1 e2 : Event Rq Rs}
    (hi : s.log[i]? = some e1) (hj : s.log[j]? = some e2)
    (h1 : e1.tick = some (c, t1)) (h2 : e2.tick = some (c, t2)) : i < j ↔ t1 < t2 := by
  have mp : ∀ {i j t1 t2 : Nat} {e1 e2 : Event Rq Rs}, s.log[i]? = some e1 → s.log[j]? = some e2 →
      e1.tick = some (c, t1) → e2.tick = some (c, t2) → i < j → t1 < t2 := by
    intro i j t1 t2 e1 e2 hi hj h1 h2 hij
    obtain ⟨s0, h0, -, hlog, hclk⟩ := h.before hj
    obtain ⟨cl, cl', hc, hmv⟩ := hclk h2
    obtain ⟨htk, hlt⟩ := hmv.tick
    cases htk.symm.trans h2
    exact Nat.lt_of_le_of_lt ((inv_tick_le h0 (hlog ▸ mem_take_iff.mpr ⟨i, hij, hi⟩) h1).2 hc) hlt
  refine ⟨mp hi hj h1 h2, fun hlt => ?_⟩
  rcases Nat.lt_trichotomy i j with hij | rfl | hji
  · exact hij
  · cases hi.symm.trans hj
    cases h1.symm.trans h2
    exact absurd hlt (Nat.lt_irrefl _)
  · exact absurd (mp hj hi h2 h1 hji) (Nat.lt_asymm hlt)

theorem tick_unique (h : Reach M n l0 s) {i j c t : Nat} {e1 e2 : Event Rq Rs}
    (hi : s.log[i]? = some e1) (hj : s.log[j]? = some e2)
    (h1 : e1.tick = some (c, t)) (h2 : e2.tick = some (c, t)) : i = j :=
  Nat.le_antisymm
    (Nat.le_of_not_lt fun hji => Nat.lt_irrefl t ((tick_lt_iff h hj hi h2 h1).mp hji))
    (Nat.le_of_not_lt fun hij => Nat.lt_irrefl t ((tick_lt_iff h hi hj h1 h2).mp hij))

theorem call_req (h : Reach M n l0 s) {c i : Nat} {r : Rq} (he : Event.call (c, i) r ∈ s.log) :
    (M.prog c)[i]? = some r := by
  obtain ⟨k, hk⟩ := List.getElem?_of_mem he
  obtain ⟨s0, -, hp, -⟩ := h.before hk
  exact hp.2

theorem enq_after_call (h : Reach M n l0 s) {k : Nat} {id : Id} {r : Rq}
    (hk : s.log[k]? = some (.enq id r)) : ∃ j, j < k ∧ s.log[j]? = some (.call id r) := by
  obtain ⟨c, pc⟩ := id
  obtain ⟨s0, h0, ⟨hc, hr, -⟩, hlog, -⟩ := h.before hk
  obtain ⟨r', hm⟩ := (inv_client h0 hc (List.Subset.refl _)).2.1 nofun
  cases hr.symm.trans (call_req h0 hm)
  exact mem_take_iff.mp (hlog ▸ hm)

theorem proc_after_enq (h : Reach M n l0 s) {k : Nat} {id : Id} {r : Rq} {rs : Rs}
    (hk : s.log[k]? = some (.proc id r rs)) : ∃ j, j < k ∧ s.log[j]? = some (.enq id r) := by
  obtain ⟨s0, h0, ⟨-, q, l', hq, -⟩, hlog, -⟩ := h.before hk
  exact mem_take_iff.mp (hlog ▸ (inv_enq_iff h0).mpr (.inr (hq ▸ List.mem_cons_self)))

theorem proc_req (h : Reach M n l0 s) {c i : Nat} {r : Rq} {rs : Rs}
    (he : Event.proc (c, i) r rs ∈ s.log) : (M.prog c)[i]? = some r := by
  obtain ⟨k, hk⟩ := List.getElem?_of_mem he
  obtain ⟨j, -, hj⟩ := proc_after_enq h hk
  obtain ⟨s0, -, hp, -⟩ := h.before hj
  exact hp.2.1

theorem proc_of_single {r0 : Rq} (hprog : ∀ c, M.prog c = [r0]) (h : Reach M n l0 s)
    {c i : Nat} {r : Rq} {rs : Rs} (hm : ((c, i), r, rs) ∈ procLog s.log) : i = 0 ∧ r = r0 := by
  have := proc_req h (mem_procLog.mp hm)
  rw [hprog] at this
  cases i with
  | zero => exact ⟨rfl, by simpa using this.symm⟩
  | succ i => simp at this

theorem ret_after_proc (h : Reach M n l0 s) {k : Nat} {id : Id} {rs : Rs}
    (hk : s.log[k]? = some (.ret id rs)) : ∃ j, j < k ∧ ∃ r, s.log[j]? = some (.proc id r rs) := by
  obtain ⟨c, pc⟩ := id
  obtain ⟨s0, h0, ⟨-, hf⟩, hlog, -⟩ := h.before hk
  obtain ⟨r, hm⟩ := inv_replies h0 (mem_of_findReply hf)
  obtain ⟨j, hj, hp⟩ := mem_take_iff.mp (hlog ▸ hm)
  exact ⟨j, hj, r, hp⟩

theorem cancelWait_after_enq (h : Reach M n l0 s) {k : Nat} {id : Id}
    (hk : s.log[k]? = some (.cancelWait id)) : ∃ j, j < k ∧ ∃ r, s.log[j]? = some (.enq id r) := by
  obtain ⟨c, pc⟩ := id
  obtain ⟨s0, h0, hc, hlog, -⟩ := h.before hk
  obtain ⟨r, hm⟩ := (inv_client h0 hc (List.Subset.refl _)).2.2 rfl
  obtain ⟨j, hj, hp⟩ := mem_take_iff.mp (hlog ▸ hm)
  exact ⟨j, hj, r, hp⟩

theorem not_failed_of_alive (h : Reach M n l0 s) (ha : s.alive = true) {id : Id} :
    Event.fail id ∉ s.log := by
  -- a `fail` needs a dead actor, a dead actor a `panic` in the log, and that stays there
  intro hm
  obtain ⟨c, pc⟩ := id
  obtain ⟨k, hk⟩ := List.getElem?_of_mem hm
  obtain ⟨s0, h0, ⟨hd, -⟩, hlog, -⟩ := h.before hk
  obtain ⟨id', r, hp⟩ := (inv_alive h0).mp hd
  exact absurd (ha.symm.trans ((inv_alive h).mpr ⟨id', r, List.mem_of_mem_take (hlog ▸ hp)⟩))
    (by decide)

theorem finish_after_call (h : Reach M n l0 s) {k : Nat} {id : Id} {e : Event Rq Rs}
    (hk : s.log[k]? = some e) (hf : e.finishes id) : ∃ j, j < k ∧ ∃ r, s.log[j]? = some (.call id r) := by
  -- whatever finishes a request, the client was `sending` or `waiting` at it just before
  obtain ⟨c, i⟩ := id
  obtain ⟨s0, h0, -, hlog, hclk⟩ := h.before hk
  obtain ⟨cl, cl', hc, ⟨⟨r, rfl⟩, -⟩ | ⟨⟨r, rfl⟩, -⟩ | ⟨hf', hst, -⟩⟩ := hclk hf.tick
  · cases hf
  · cases hf
  have hi : cl.pc = i := by cases e <;> cases hf <;> cases hf' <;> rfl
  obtain ⟨r, hm⟩ := (inv_client h0 hc (List.Subset.refl _)).2.1 hst
  rw [hi] at hm
  obtain ⟨j, hj, hp⟩ := mem_take_iff.mp (hlog ▸ hm)
  exact ⟨j, hj, r, hp⟩

theorem finish_unique (h : Reach M n l0 s) {i j : Nat} {id : Id} {e1 e2 : Event Rq Rs}
    (hi : s.log[i]? = some e1) (hj : s.log[j]? = some e2) (h1 : e1.finishes id)
    (h2 : e2.finishes id) : i = j :=
  tick_unique h hi hj h1.tick h2.tick

theorem proc_unique (h : Reach M n l0 s) {i j : Nat} {id : Id} {r r' : Rq} {rs rs' : Rs}
    (hi : s.log[i]? = some (.proc id r rs)) (hj : s.log[j]? = some (.proc id r' rs')) : i = j := by
  -- when the later of two was logged, `id` was at the head of the queue and already processed
  have key : ∀ {i j : Nat} {r r' : Rq} {rs rs' : Rs}, s.log[i]? = some (.proc id r rs) →
      s.log[j]? = some (.proc id r' rs') → ¬ i < j := by
    intro i j r r' rs rs' hi hj hlt
    obtain ⟨s0, h0, ⟨-, q, l', hq, -⟩, hlog, -⟩ := h.before hj
    exact inv_queue_not_processed h0 (hq ▸ List.mem_cons_self)
      (hlog ▸ mem_take_iff.mpr ⟨i, hlt, hi⟩)
  exact Nat.le_antisymm (Nat.le_of_not_lt (key hj hi)) (Nat.le_of_not_lt (key hi hj))

theorem no_enq_of_cancelSend (h : Reach M n l0 s) {id : Id} {r : Rq}
    (hc : Event.cancelSend id ∈ s.log) (he : Event.enq id r ∈ s.log) : False := by
  obtain ⟨c, pc⟩ := id
  obtain ⟨a, ha⟩ := List.getElem?_of_mem hc
  obtain ⟨b, hb⟩ := List.getElem?_of_mem he
  -- by its tick the `enq` comes first; but the client was still `sending` when it cancelled
  have hba := (tick_lt_iff h hb ha rfl rfl).mpr (Nat.lt_succ_self _)
  obtain ⟨s0, h0, hp, hlog, -⟩ := h.before ha
  exact absurd ((inv_tick_le h0 (hlog ▸ mem_take_iff.mpr ⟨b, hba, hb⟩) rfl).2 hp) (Nat.lt_irrefl _)

theorem fifo_pos (h : Reach M n l0 s) {i j q : Nat} {a b : Id} {ra rb rb' : Rq} {rsb : Rs}
    (hi : s.log[i]? = some (.enq a ra)) (hj : s.log[j]? = some (.enq b rb)) (hij : i < j)
    (hq : s.log[q]? = some (.proc b rb' rsb)) :
    ∃ p, p < q ∧ ∃ rsa, s.log[p]? = some (.proc a ra rsa) := by
  obtain ⟨j', hjq, hj'⟩ := proc_after_enq h hq
  cases tick_unique h hj' hj rfl rfl
  -- when `b` was processed it was at the head of the queue: the requests enqueued before it are
  -- exactly the processed ones
  obtain ⟨s0, h0, ⟨-, rest, l', hq0, -⟩, hlog, -⟩ := h.before hq
  have hi0 : s0.log[i]? = some (.enq a ra) := by
    rw [hlog, List.getElem?_take, if_pos (Nat.lt_trans hij hjq)]; exact hi
  have hj0 : s0.log[j]? = some (.enq b rb) := by rw [hlog, List.getElem?_take, if_pos hjq]; exact hj
  have ha := proj_getElem? enqLog_append hi0 rfl
  have hb := proj_getElem? enqLog_append hj0 rfl
  have hlt := proj_lt enqLog_append hi0 rfl hij
  have hF := inv_fifo h0
  have hhead :
      (enqLog s0.log)[((procLog s0.log).map fun p => (p.1, p.2.1)).length]? = some (b, rb') := by
    rw [hF, hq0, List.getElem?_append_right (Nat.le_refl _), Nat.sub_self]; rfl
  rw [nodup_map_getElem?_inj (inv_enq_nodup h0) hb hhead rfl] at hlt
  rw [hF, List.getElem?_append_left hlt] at ha
  obtain ⟨⟨a', ra', rsa⟩, hm, heq⟩ := List.mem_map.mp (List.mem_of_getElem? ha)
  cases heq
  obtain ⟨p, hp, hpa⟩ := mem_take_iff.mp (hlog ▸ mem_procLog.mp hm)
  exact ⟨p, hp, rsa, hpa⟩

theorem realtime_order (h : Reach M n l0 s) {i j p q : Nat} {e1 : Event Rq Rs} {id1 id2 : Id}
    {r1 r2 r2' : Rq} {o1 o2 : Rs}
    (hi : s.log[i]? = some e1) (hf : e1.finishes id1) (hj : s.log[j]? = some (.call id2 r2))
    (hij : i < j) (hp : s.log[p]? = some (.proc id1 r1 o1))
    (hq : s.log[q]? = some (.proc id2 r2' o2)) : p < q := by
  obtain ⟨a, -, ha⟩ := proc_after_enq h hp
  obtain ⟨b, -, hb⟩ := proc_after_enq h hq
  -- by their ticks `id1` was enqueued before it finished, `id2` after it was called: FIFO
  have hai := (tick_lt_iff h ha hi rfl hf.tick).mpr (Nat.lt_succ_self _)
  have hjb := (tick_lt_iff h hj hb rfl rfl).mpr (Nat.lt_succ_self _)
  obtain ⟨p', hp'q, o, hp'⟩ := fifo_pos h ha hb (Nat.lt_trans hai (Nat.lt_trans hij hjb)) hq
  exact proc_unique h hp' hp ▸ hp'q

theorem program_order (h : Reach M n l0 s) {c i1 i2 p q : Nat} {r1 r2 : Rq} {o1 o2 : Rs}
    (hp : s.log[p]? = some (.proc (c, i1) r1 o1)) (hq : s.log[q]? = some (.proc (c, i2) r2 o2))
    (hlt : i1 < i2) : p < q := by
  obtain ⟨a, -, ha⟩ := proc_after_enq h hp
  obtain ⟨b, -, hb⟩ := proc_after_enq h hq
  -- by their ticks they were enqueued in this order: FIFO
  obtain ⟨p', hp'q, o, hp'⟩ := fifo_pos h ha hb ((tick_lt_iff h ha hb rfl rfl).mpr (by omega)) hq
  exact proc_unique h hp' hp ▸ hp'q

end TcVerif.Actor
