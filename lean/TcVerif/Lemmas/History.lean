/-
  From one step to whole histories: the run of a fixed-limits key on its cell IS the run of the
  ideal bucket (decisions, remaining tokens), and every state it reaches is related to the bucket's.
-/
import TcVerif.Lemmas.BucketSim
namespace TcVerif

def FixedD (ei : Int → Int → Int) (E B : Int) : Int → List Req → Prop
  | _, [] => True
  | t0, r :: rs => StepD E B t0 r ∧ ei r.count r.period = E ∧ FixedD ei E B r.now rs

def reqTQ (r : Req) : Int × Int := (r.now, r.qty)

def bucketAfter (B E : Int) : Option Bucket → List (Int × Int) → Option Bucket
  | b, [] => b
  | b, (t, q) :: rest => bucketAfter B E (Bucket.step B E b t q).1 rest

def lastTime : Int → List Req → Int
  | t0, [] => t0
  | _, r :: rs => lastTime r.now rs

theorem cell_run_bucket {ei : Int → Int → Int} {E B : Int} (rs : List Req) (t0 : Int) (c : Cell) (b : Option Bucket)
    (h : FixedD ei E B t0 rs) (hrel : Rel E B c b t0) :
    (runTagged Cell.ops ei c rs).map (fun p => (p.2.allowed, p.2.remaining)) = Bucket.runFull B E b (rs.map reqTQ) ∧
    (∀ p ∈ runTagged Cell.ops ei c rs, p.2.isOk = true ∧ p.2.limit = B) ∧
    Rel E B (stateAfter Cell.ops ei c rs) (bucketAfter B E b (rs.map reqTQ)) (lastTime t0 rs) := by
  induction rs generalizing t0 c b with
  | nil => exact ⟨rfl, fun _ hp => (nomatch hp), hrel⟩
  | cons r rs ih =>
    obtain ⟨h1, h2, h3⟩ := h
    obtain ⟨f, hrel'⟩ := rel_step c b t0 r h1 hrel
    obtain ⟨i1, i2, i3⟩ := ih r.now _ _ h3 hrel'
    simp only [runTagged, stateAfter, h2, List.map, reqTQ, Bucket.runFull, bucketAfter, lastTime, Bucket.step_eq]
    exact ⟨by rw [f.allowed, f.remaining, i1], List.forall_mem_cons.mpr ⟨⟨f.ok, f.limit⟩, i2⟩, i3⟩

theorem fixedD_of_monotone {ei : Int → Int → Int} {E B : Int} {rs : List Req} {t0 : Int}
    (hD : DomD E B) (hm : MonotoneFrom t0 rs)
    (hreqs : ∀ r ∈ rs, r.burst = B ∧ ei r.count r.period = E ∧ r.valid ∧ 0 ≤ r.now ∧ r.now ≤ T_MAX) :
    FixedD ei E B t0 rs := by
  induction rs generalizing t0 with
  | nil => trivial
  | cons r rs ih =>
    obtain ⟨hb, he, hv, hn0, hn1⟩ := hreqs r (List.mem_cons_self ..)
    exact ⟨⟨hD, hb, hv, hm.1, hn0, hn1⟩, he, ih hm.2 (fun r' hr' => hreqs r' (List.mem_cons_of_mem _ hr'))⟩

theorem fixedD_of_forall (ei : Int → Int → Int) (E B : Int) (k : Key) (rs : List Req) (t0 : Int)
    (hD : DomD E B) (hm : MonotoneFrom t0 rs)
    (hreqs : ∀ r ∈ rs, r.key = k → r.burst = B ∧ ei r.count r.period = E ∧ r.valid ∧ 0 ≤ r.now ∧ r.now ≤ T_MAX) :
    FixedD ei E B t0 (rs.filter (fun r => r.key = k)) :=
  fixedD_of_monotone hD (monotoneFrom_filter _ t0 rs hm) fun r hr =>
    hreqs r (List.mem_filter.mp hr).1 (of_decide_eq_true (List.mem_filter.mp hr).2)

theorem fixedD_lastTime {ei : Int → Int → Int} {E B : Int} (rs : List Req) (t0 : Int)
    (h : FixedD ei E B t0 rs) : t0 ≤ lastTime t0 rs := by
  induction rs generalizing t0 with
  | nil => exact Int.le_refl _
  | cons r rs ih =>
    obtain ⟨h1, _, h3⟩ := h
    have := ih r.now h3
    have := h1.mono
    simp only [lastTime]; omega

theorem fixedD_append {ei : Int → Int → Int} {E B : Int} (rs : List Req) (t0 : Int) (x : Req)
    (h : FixedD ei E B t0 (rs ++ [x])) :
    FixedD ei E B t0 rs ∧ StepD E B (lastTime t0 rs) x ∧ ei x.count x.period = E := by
  induction rs generalizing t0 with
  | nil => exact ⟨trivial, h.1, h.2.1⟩
  | cons r rs ih =>
    obtain ⟨h1, h2, h3⟩ := h
    obtain ⟨i1, i2, i3⟩ := ih r.now h3
    exact ⟨⟨h1, h2, i1⟩, i2, i3⟩

end TcVerif
