/-
  The state of ONE key: an optional (value, expiry) pair with the three store operations.
  The abstract map never removes anything, so its key `k` IS a cell (`a.data.find k`): requests on
  `k` act on it as `Cell.ops`, requests on other keys leave it alone, in any order of timestamps.
  This is the key-isolation argument (C05) and the bridge to the single-key GCRA theorems.
-/
import TcVerif.Lemmas.LimiterSim
namespace TcVerif
open Data

abbrev Cell := Option (Int × Int)

def Cell.live (c : Cell) (now : Int) : Option (Int × Int) :=
  match c with
  | some (v, e) => if e > now then some (v, e) else none
  | none => none

def Cell.ops : StoreOps Cell where
  get c _ now := (Cell.live c now).map (·.1)
  cas c _ old new ttl now :=
    match Cell.live c now with
    | some (cur, _) => if cur = old then (some (new, now + ttl), true) else (c, false)
    | none => (c, false)
  setnx c _ v ttl now :=
    match Cell.live c now with
    | some _ => (c, false)
    | none => (some (v, now + ttl), true)

theorem Cell.get_none (k : Key) (x : Int) : Cell.ops.get none k x = none := rfl

theorem Cell.get_some (v e : Int) (k : Key) (x : Int) :
    Cell.ops.get (some (v, e)) k x = if e > x then some v else none := by
  simp only [Cell.ops, Cell.live]
  split <;> rfl

theorem Cell.put_eq (c : Cell) (k : Key) (tv : Option Int) (new ttl now : Int) :
    Cell.ops.put c k tv new ttl now =
      (if Cell.ops.get c k now = tv then some (new, now + ttl) else c, decide (Cell.ops.get c k now = tv)) := by
  cases tv with
  | none => cases hl : Cell.live c now <;> simp [StoreOps.put, Cell.ops, hl]
  | some old =>
    cases hl : Cell.live c now with
    | none => simp [StoreOps.put, Cell.ops, hl]
    | some p => by_cases hc : p.1 = old <;> simp [StoreOps.put, Cell.ops, hl, hc]

theorem Data.get_eq_cell (d : Data) (k : Key) (now : Int) :
    d.get k now = Cell.ops.get (d.find k) k now :=
  -- `Data.live d now k` unfolds to `Cell.live (d.find k) now`
  get_eq_live d k now

/-- what a write does to the view `find` (the map shows `c` at `k` and `f` elsewhere): the cell's
    write at its own key, nothing at any other -/
theorem amap_put_find {k : Key} {f : Key → Cell} {a : AMap} {c : Cell}
    (hr : a.data.find k = c ∧ ∀ k', k' ≠ k → a.data.find k' = f k') (tv : Option Int) (new ttl now : Int) :
    (AMap.ops.put a k tv new ttl now).2 = (Cell.ops.put c k tv new ttl now).2 ∧
    (AMap.ops.put a k tv new ttl now).1.data.find k = (Cell.ops.put c k tv new ttl now).1 ∧
    ∀ k', k' ≠ k → (AMap.ops.put a k tv new ttl now).1.data.find k' = f k' := by
  obtain ⟨rfl, ho⟩ := hr
  rw [AMap.put_eq, Cell.put_eq, ← get_eq_cell]
  dsimp only
  by_cases hg : a.data.get k now = tv
  · rw [if_pos hg, if_pos hg]
    exact ⟨rfl, by rw [find_insert, if_pos rfl],
      fun k' hk => by rw [find_insert, if_neg (Ne.symm hk), ho k' hk]⟩
  · rw [if_neg hg, if_neg hg]
    exact ⟨rfl, rfl, ho⟩

/-- the abstract map is the product of its cells: requests on `k` act on `k`'s entry as `Cell.ops`,
    exactly and at every time, and leave every other key's entry (`f`) as it is -/
theorem amap_sim_cell (k : Key) (f : Key → Cell) :
    OpsSimOn (fun k' => k' = k) AMap.ops Cell.ops
      (fun _ a c => a.data.find k = c ∧ ∀ k', k' ≠ k → a.data.find k' = f k') where
  mono := fun _ hr => hr
  get := by
    intro now a c k' hk hr
    subst hk
    exact (get_eq_cell a.data k' now).trans (by rw [hr.1])
  cas := by
    intro now a c k' old new ttl hk hr
    subst hk
    exact amap_put_find hr (some old) new ttl now
  setnx := by
    intro now a c k' v ttl hk hr
    subst hk
    exact amap_put_find hr none v ttl now

theorem runTagged_project (ei : Int → Int → Int) (k : Key) (rs : List Req) (a : AMap) :
    (runTagged AMap.ops ei a rs).filter (fun p => p.1.key = k)
      = runTagged Cell.ops ei (a.data.find k) (rs.filter (fun r => r.key = k)) := by
  induction rs generalizing a with
  | nil => rfl
  | cons r rs ih =>
    -- the request acts on the cell of its own key (`h2`) and on no other (`h3`)
    obtain ⟨h1, h2, h3⟩ := rateLimitE_sim (amap_sim_cell r.key a.data.find) a _ (ei r.count r.period) r rfl
      ⟨rfl, fun _ _ => rfl⟩
    by_cases hk : r.key = k
    · subst hk
      simp only [runTagged, List.filter, decide_true]
      rw [ih, h1, h2]
    · have hk' : decide (r.key = k) = false := by simp [hk]
      simp only [runTagged, List.filter, hk']
      rw [ih, h3 k (Ne.symm hk)]

theorem runTagged_single_key (ei : Int → Int → Int) (k : Key) (rs : List Req) (t0 : Int)
    (st : AnyStore) (hst : st.data = []) (hm : MonotoneFrom t0 rs) (hk : ∀ r ∈ rs, r.key = k) :
    runTagged AnyStore.ops ei st rs = runTagged Cell.ops ei none rs := by
  rw [runTagged_fresh ei rs t0 st hst hm]
  exact runTagged_sim (amap_sim_cell k fun _ => none) ei rs t0 AMap.empty none ⟨rfl, fun _ _ => rfl⟩ hm hk

end TcVerif
