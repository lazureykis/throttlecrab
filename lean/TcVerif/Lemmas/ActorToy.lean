/-
  A concrete small system used by the non-vacuity examples of C09 / C10 / C11:
  2 clients, capacity 1, one unit request each, a limiter with budget 1.
-/
import TcVerif.Model.Actor
namespace TcVerif.Actor

def toyLim : Limiter Nat Nat Bool where
  step l r := some (if l + r ≤ 1 then (l + r, true) else (l, false))

def toySys : Sys Nat Nat Bool := { lim := toyLim, cap := 1, prog := fun _ => [1] }

/-- client 0 and 1 call; 0 is enqueued; 1 cannot be (queue full: back-pressure); after `proc`, 1 is
    enqueued, then abandons its request; it is processed all the same; 0 gets its reply. -/
def toyLabels : List Label :=
  [.call 0, .call 1, .enq 0, .proc, .enq 1, .cancel 1, .proc, .ret 0]

theorem toy_reach : ∃ s, Reach toySys 2 0 s ∧ (procLog s.log).length = 2 ∧
    (procLog s.log).map (·.2.2) = [true, false] ∧ s.queue = [] := by
  exact ⟨(run? toySys (init 2 0) toyLabels).get (by decide),
    Reach.run .init (run?_iff.mp (Option.some_get _).symm), by decide, by decide, by decide⟩

end TcVerif.Actor
