/-
  Decimal rendering and `i64` parsing: what `renderInt` writes for an `i64`, `parseI64` reads back;
  what `parseI64` accepts is an `i64`; the rendered bytes are ASCII and not CR, so a line frame
  carries them as they are.
-/
import TcVerif.Model.Resp

namespace TcVerif.Resp

theorem digit_table : ∀ j, j < 10 →
    isDigit (UInt8.ofNat (48 + j)) = true ∧ (UInt8.ofNat (48 + j)).toNat - 48 = j := by decide

theorem isDigit_digitByte (k : Nat) : isDigit (digitByte k) = true :=
  (digit_table (k % 10) (Nat.mod_lt _ (by decide))).1

theorem digitByte_val (k : Nat) : (digitByte k).toNat - 48 = k % 10 :=
  (digit_table (k % 10) (Nat.mod_lt _ (by decide))).2

theorem isDigit_lt128 {c : UInt8} (h : isDigit c = true) : c < 128 := by
  simp [isDigit, UInt8.le_iff_toNat_le, UInt8.lt_iff_toNat_lt] at *; omega

theorem isDigit_ne_cr_sign {c : UInt8} (h : isDigit c = true) : c ≠ 13 ∧ c ≠ 45 ∧ c ≠ 43 := by
  refine ⟨?_, ?_, ?_⟩ <;> (intro h2; subst h2; simp [isDigit] at h)

theorem div_ten_lt {n f : Nat} (h : ¬ n < 10) (hf : n < f + 1) : n / 10 < f :=
  calc n / 10 < n := Nat.div_lt_self (by omega) (by decide)
    _ ≤ f := Nat.le_of_lt_succ hf

/-- with fuel to spare the loop writes the digits of `n` in front of its accumulator, and the same
    ones whatever the fuel -/
theorem natDigitsAux_append {f g n : Nat} (acc acc' : List UInt8) (hf : n < f) (hg : n < g) :
    natDigitsAux f n (acc ++ acc') = natDigitsAux g n acc ++ acc' := by
  induction f generalizing g n acc with
  | zero => cases hf
  | succ f ih =>
    cases g with
    | zero => cases hg
    | succ g =>
      simp only [natDigitsAux]
      split
      · rfl
      · rename_i h; exact ih (digitByte n :: acc) (div_ten_lt h hf) (div_ten_lt h hg)

theorem renderNat_lt {n : Nat} (h : n < 10) : renderNat n = [digitByte n] := by
  simp [renderNat, natDigitsAux, h]

theorem renderNat_ge {n : Nat} (h : 10 ≤ n) :
    renderNat n = renderNat (n / 10) ++ [digitByte n] := by
  have h' : ¬ n < 10 := Nat.not_lt.mpr h
  rw [renderNat, natDigitsAux, if_neg h']
  exact natDigitsAux_append [] _ (div_ten_lt h' (Nat.lt_succ_self n)) (Nat.lt_succ_self _)

theorem renderNat_digits (n : Nat) : ∀ c ∈ renderNat n, isDigit c = true := by
  induction n using Nat.strongRecOn with
  | _ n ih =>
    by_cases h : n < 10
    · rw [renderNat_lt h]; intro c hc; simp at hc; subst hc; exact isDigit_digitByte n
    · rw [renderNat_ge (Nat.le_of_not_lt h)]
      intro c hc
      simp only [List.mem_append, List.mem_singleton] at hc
      rcases hc with hc | hc
      · exact ih (n / 10) (div_ten_lt h (Nat.lt_succ_self n)) c hc
      · subst hc; exact isDigit_digitByte n

theorem renderNat_ne_nil (n : Nat) : renderNat n ≠ [] := by
  by_cases h : n < 10
  · rw [renderNat_lt h]; simp
  · rw [renderNat_ge (Nat.le_of_not_lt h)]; simp

/-- reading what the loop wrote in front of `acc` leaves `n` in hand for reading `acc` -/
theorem digitsVal_natDigitsAux {f n : Nat} (acc : List UInt8) (h : n < f) :
    digitsVal (natDigitsAux f n acc) 0 = digitsVal acc n := by
  induction f generalizing n acc with
  | zero => cases h
  | succ f ih =>
    have step : digitsVal (digitByte n :: acc) (n / 10) = digitsVal acc n := by
      rw [digitsVal, if_pos (isDigit_digitByte n), digitByte_val, Nat.div_add_mod']
    rw [natDigitsAux]
    split
    · rename_i h10; rw [← step, Nat.div_eq_of_lt h10]
    · rename_i h10; rw [ih _ (div_ten_lt h10 h), step]

theorem digitsVal_renderNat (n : Nat) : digitsVal (renderNat n) 0 = some n :=
  digitsVal_natDigitsAux [] (Nat.lt_succ_self n)

theorem parseDigits_renderNat (n : Nat) : parseDigits (renderNat n) = some n := by
  unfold parseDigits
  split
  · rename_i h; exact absurd h (renderNat_ne_nil n)
  · exact digitsVal_renderNat n

theorem parseI64_renderNat {n : Nat} (h : n ≤ I64_MAX_NAT) :
    parseI64 (renderNat n) = some (n : Int) := by
  have hp := parseDigits_renderNat n
  have hd := renderNat_digits n
  cases hr : renderNat n with
  | nil => exact absurd hr (renderNat_ne_nil n)
  | cons c cs =>
    rw [hr] at hp hd
    have hc := isDigit_ne_cr_sign (hd c (by simp))
    simp only [parseI64, hc.2.1, hc.2.2, if_false, hp, h, if_true]

theorem parseI64_renderInt {n : Int} (h : inI64 n = true) : parseI64 (renderInt n) = some n := by
  simp only [inI64, Bool.and_eq_true, decide_eq_true_eq] at h
  unfold renderInt
  split
  · rename_i hneg
    simp only [parseI64, if_true, parseDigits_renderNat]
    have : n.natAbs ≤ I64_MAX_NAT + 1 := by omega
    simp only [this, if_true]
    rw [Int.ofNat_natAbs_of_nonpos (Int.le_of_lt hneg), Int.neg_neg]
  · rename_i hpos
    rw [parseI64_renderNat (Int.toNat_le.mpr h.2), Int.toNat_of_nonneg (Int.not_lt.mp hpos)]

theorem renderNat_ascii_no_cr (n : Nat) : ∀ c ∈ renderNat n, c < 128 ∧ c ≠ 13 := by
  intro c hc
  have := renderNat_digits _ c hc
  exact ⟨isDigit_lt128 this, (isDigit_ne_cr_sign this).1⟩

theorem renderInt_ascii_no_cr (n : Int) : ∀ c ∈ renderInt n, c < 128 ∧ c ≠ 13 := by
  intro c hc
  unfold renderInt at hc
  split at hc
  · rcases List.mem_cons.mp hc with rfl | hc
    · decide
    · exact renderNat_ascii_no_cr _ c hc
  · exact renderNat_ascii_no_cr _ c hc

theorem parseI64_range {l : List UInt8} {k : Int} (h : parseI64 l = some k) : inI64 k = true := by
  simp only [inI64, Bool.and_eq_true, decide_eq_true_eq]
  revert h
  fun_cases parseI64 l
  all_goals rintro ⟨⟩
  all_goals omega

theorem parseHdrInt_range {l : List UInt8} {k : Int} (h : parseHdrInt l = some k) :
    inI64 k = true := by
  unfold parseHdrInt at h
  split at h
  · exact parseI64_range h
  · cases h

end TcVerif.Resp
