/-
  The parser with Rust's explicit depth counter (`decodeD`) agrees with the fuel formulation
  (`decode`) and restores the counter on every non-error return.
-/
import TcVerif.Lemmas.RespDecode

namespace TcVerif.Resp

open TcVerif.Gen

/-- how the parser with the counter (`p`: answer and counter afterwards) stands to the one with fuel
    (`r`) when entered at depth `D`: the same answer with the counter back at `D`, or both failed
    (the counter is then whatever it was when the failure was met) -/
def Restores {R : Type} (err : R) (D : Nat) (p : R × Nat) (r : R) : Prop :=
  p = (r, D) ∨ ∃ dp, p = (err, dp) ∧ r = err

theorem Restores.spec {R : Type} {err : R} {D : Nat} {p : R × Nat} {r : R}
    (h : Restores err D p r) : p.1 = r ∧ (p.1 ≠ err → p.2 = D) := by
  rcases h with rfl | ⟨dp, rfl, rfl⟩
  · exact ⟨rfl, fun _ => rfl⟩
  · exact ⟨rfl, fun h => absurd rfl h⟩

theorem elemsD_restores {decD : Nat → List UInt8 → DecodeResult × Nat}
    {dec : List UInt8 → DecodeResult} {D : Nat}
    (h : ∀ d, Restores .error D (decD D d) (dec d)) (c : Nat) :
    ∀ d, Restores .error D (elemsD decD c D d) (decodeElemsWith dec c d) := by
  induction c with
  | zero => exact fun d => .inl rfl
  | succ c ih =>
    intro d
    rw [elemsD, decodeElemsWith]
    rcases h d with e | ⟨dp, e, e'⟩
    · rw [e]
      cases dec d with
      | ok v m =>
        simp only
        rcases ih (d.drop m) with e2 | ⟨dp2, e2, e2'⟩
        · rw [e2]; cases decodeElemsWith dec c (d.drop m) <;> exact .inl rfl
        · rw [e2, e2']; exact .inr ⟨dp2, rfl, rfl⟩
      | _ => exact .inl rfl
    · rw [e, e']; exact .inr ⟨dp, rfl, rfl⟩

theorem decodeD_scalar (gas depth : Nat) (t : UInt8) (r : List UInt8) (ht : t ≠ 42) :
    decodeD gas depth (t :: r) = (decodeScalar t (t :: r), depth) := by
  rw [decodeD, decodeScalar]
  simp only [ht, if_false, apply_ite (fun g : List UInt8 → DecodeResult => (g (t :: r), depth))]

theorem decodeD_restores (gas : Nat) : ∀ (depth : Nat) (d : List UInt8),
    RESP_MAX_DEPTH ≤ depth + gas →
    Restores .error depth (decodeD gas depth d) (decode (RESP_MAX_DEPTH - depth) d) := by
  -- strong induction only to split `gas` in the array case alone: `nil` and scalars are done once
  induction gas using Nat.strongRecOn with
  | _ gas ih =>
    intro depth d hg
    cases d with
    | nil => rw [decodeD, decode_nil]; exact .inl rfl
    | cons t r =>
      by_cases ht : t = 42
      · subst ht
        rw [decodeD]
        show Restores _ _ (if depth ≥ RESP_MAX_DEPTH then _ else _) _
        by_cases hdep : depth ≥ RESP_MAX_DEPTH
        · rw [if_pos hdep, Nat.sub_eq_zero_of_le hdep, decode_array_zero r]; exact .inl rfl
        · obtain ⟨g, rfl⟩ := Nat.exists_eq_add_one_of_ne_zero
            fun h0 : gas = 0 => hdep (by subst h0; exact hg)
          have h1 : RESP_MAX_DEPTH - depth = (RESP_MAX_DEPTH - (depth + 1)) + 1 := by
            rw [Nat.sub_add_eq, Nat.sub_add_cancel (Nat.sub_pos_of_lt (Nat.lt_of_not_ge hdep))]
          rw [if_neg hdep, h1, decode_array_succ _ r]
          cases header RESP_MAX_ARRAY (42 :: r) with
          | len n cnt =>
            simp only
            rcases elemsD_restores (fun d' => ih g (Nat.lt_succ_self g) (depth + 1) d'
              (Nat.add_right_comm depth 1 g ▸ hg)) cnt ((42 :: r).drop n) with e | ⟨dp, e, e'⟩
            · rw [e]
              cases decodeElemsWith _ cnt ((42 :: r).drop n) with
              | error => exact .inr ⟨_, rfl, rfl⟩
              | _ => exact .inl rfl
            · rw [e, e']; exact .inr ⟨dp, rfl, rfl⟩
          | _ => exact .inl rfl
      · rw [decodeD_scalar _ depth t r ht, decode_scalar _ t r ht]; exact .inl rfl

end TcVerif.Resp
