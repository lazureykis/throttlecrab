/-
  Invariants of the actor LTS (Model/Actor.lean): runs of any length, any number of clients, any
  programs, any capacity.

  Clients and log are tied together by a clock.  A client's `(pc, st)`, read as one number, only
  advances; every transition of a client logs an event that calls, enqueues or leaves its current
  request (`Event.moves`) and carries the new clock value (its `tick`); `Step.shape` says so once,
  for all nine rules.  What the log says about the clients (`inv_tick_le`) and what the clients say
  about the log (`inv_client`) are then two short inductions.  The actor's side (queue, slots,
  liveness, limiter state) is tied to the log by one invariant per component.
-/
import TcVerif.Lemmas.ActorLists
namespace TcVerif.Actor
variable {L Rq Rs : Type}

/-- a client's clock: `(pc, st)` in lexicographic order (`idle < sending < waiting`) as a number -/
def Cl.clock (cl : Cl) : Nat :=
  3 * cl.pc + match cl.st with
    | .idle => 0
    | .sending => 1
    | .waiting => 2

/-- Request `pc` ticks at `3 * pc + 1`, `+ 2`, `+ 3` (called, enqueued, left, see `Event.tick`): a
    client at `pc` is below the last of these, -/
theorem Cl.clock_lt (cl : Cl) : cl.clock < 3 * cl.pc + 3 :=
  Nat.add_lt_add_left (by cases cl.st <;> decide) _

/-- and a client idle at `pc` below them all -/
theorem Cl.clock_idle_lt (pc k : Nat) : Cl.clock ⟨pc, .idle⟩ < 3 * pc + (k + 1) :=
  Nat.lt_add_of_pos_right (Nat.succ_pos k)

def Event.finishes (id : Id) : Event Rq Rs → Prop
  | .ret id' _ => id' = id
  | .cancelSend id' => id' = id
  | .cancelWait id' => id' = id
  | .fail id' => id' = id
  | _ => False

/-- The client an event belongs to and that client's clock right after it: `call` of request `i`
    leaves the client `sending` at `i`, `enq` `waiting` at `i`, and `ret`/`cancel`/`fail` `idle` at
    `i + 1`.  (`proc` and `panic` are the actor's own events.) -/
def Event.tick : Event Rq Rs → Option (Nat × Nat)
  | .call id _ => some (id.1, 3 * id.2 + 1)
  | .enq id _ => some (id.1, 3 * id.2 + 2)
  | .ret id _ | .cancelSend id | .cancelWait id | .fail id => some (id.1, 3 * id.2 + 3)
  | .proc .. | .panic .. => none

/-- the guard of the transition that logs `e` -/
def Event.pre (M : Sys L Rq Rs) (s : State L Rq Rs) : Event Rq Rs → Prop
  | .call (c, pc) r => s.clients[c]? = some ⟨pc, .idle⟩ ∧ (M.prog c)[pc]? = some r
  | .enq (c, pc) r => s.clients[c]? = some ⟨pc, .sending⟩ ∧ (M.prog c)[pc]? = some r ∧
      s.queue.length < M.cap ∧ s.alive = true
  | .proc id r rs =>
      s.alive = true ∧ ∃ q l', s.queue = (id, r) :: q ∧ M.lim.step s.lim r = some (l', rs)
  | .panic id r => s.alive = true ∧ ∃ q, s.queue = (id, r) :: q ∧ M.lim.step s.lim r = none
  | .ret (c, pc) rs => s.clients[c]? = some ⟨pc, .waiting⟩ ∧ findReply (c, pc) s.replies = some rs
  | .cancelSend (c, pc) => s.clients[c]? = some ⟨pc, .sending⟩
  | .cancelWait (c, pc) => s.clients[c]? = some ⟨pc, .waiting⟩
  | .fail (c, pc) => s.alive = false ∧ (s.clients[c]? = some ⟨pc, .sending⟩ ∨
      s.clients[c]? = some ⟨pc, .waiting⟩ ∧ findReply (c, pc) s.replies = none)

theorem Event.finishes.tick {e : Event Rq Rs} {c i : Nat} (hf : e.finishes (c, i)) :
    e.tick = some (c, 3 * i + 3) := by
  cases e <;> cases hf <;> rfl

/-- `e` is the event of client `c`'s transition from `cl` to `cl'`: it calls or enqueues `c`'s
    current request, or leaves it -/
def Event.moves (e : Event Rq Rs) (c : Nat) (cl cl' : Cl) : Prop :=
  (∃ r, e = .call (c, cl.pc) r) ∧ cl.st = .idle ∧ cl' = ⟨cl.pc, .sending⟩ ∨
    (∃ r, e = .enq (c, cl.pc) r) ∧ cl.st = .sending ∧ cl' = ⟨cl.pc, .waiting⟩ ∨
    e.finishes (c, cl.pc) ∧ cl.st ≠ .idle ∧ cl' = ⟨cl.pc + 1, .idle⟩

/-- the event carries the new clock value, and the clock has advanced -/
theorem Event.moves.tick {e : Event Rq Rs} {c : Nat} {cl cl' : Cl} (h : e.moves c cl cl') :
    e.tick = some (c, cl'.clock) ∧ cl.clock < cl'.clock := by
  obtain ⟨pc, st⟩ := cl
  rcases h with ⟨⟨r, rfl⟩, rfl, rfl⟩ | ⟨⟨r, rfl⟩, rfl, rfl⟩ | ⟨hf, -, rfl⟩
  · exact ⟨rfl, Nat.lt_succ_self _⟩
  · exact ⟨rfl, Nat.lt_succ_self _⟩
  · exact ⟨hf.tick, Cl.clock_lt _⟩

variable {M : Sys L Rq Rs} {n : Nat} {l0 : L} {s s' : State L Rq Rs} {lb : Label}

/-- What a transition that logs `e` does to a client `c`: nothing, unless `e` is `c`'s. -/
def ClientsStep (cls cls' : List Cl) (e : Event Rq Rs) : Prop :=
  ∀ c, (cls'[c]? = cls[c]? ∧ ∀ t, e.tick ≠ some (c, t)) ∨
    ∃ cl cl', cls[c]? = some cl ∧ cls'[c]? = some cl' ∧ e.moves c cl cl'

theorem clientsStep_none (cls : List Cl) {e : Event Rq Rs} (h : e.tick = none) :
    ClientsStep cls cls e :=
  fun _ => .inl ⟨rfl, fun _ => h ▸ nofun⟩

theorem clientsStep_set {cls : List Cl} {c : Nat} {cl cl' : Cl} {e : Event Rq Rs}
    (hc : cls[c]? = some cl) (h : e.moves c cl cl') : ClientsStep cls (cls.set c cl') e := by
  intro c2
  by_cases h2 : c2 = c
  · subst h2
    exact .inr ⟨cl, cl', hc, by simp [(List.getElem?_eq_some_iff.mp hc).1], h⟩
  · exact .inl ⟨List.getElem?_set_ne (Ne.symm h2),
      fun t ht => h2 (by cases h.tick.1.symm.trans ht; rfl)⟩

theorem Step.shape (hst : Step M s lb s') :
    ∃ e, e.pre M s ∧ s'.log = s.log ++ [e] ∧ ClientsStep s.clients s'.clients e := by
  cases hst
  case call c pc r hc hr =>
    exact ⟨.call (c, pc) r, ⟨hc, hr⟩, rfl, clientsStep_set hc (.inl ⟨⟨r, rfl⟩, rfl, rfl⟩)⟩
  case enq c pc r hc hr hcap ha =>
    exact ⟨.enq (c, pc) r, ⟨hc, hr, hcap, ha⟩, rfl,
      clientsStep_set hc (.inr (.inl ⟨⟨r, rfl⟩, rfl, rfl⟩))⟩
  case proc id r q l' rs ha hq hs =>
    exact ⟨.proc id r rs, ⟨ha, q, l', hq, hs⟩, rfl, clientsStep_none _ rfl⟩
  case actorPanic id r q ha hq hs =>
    exact ⟨.panic id r, ⟨ha, q, hq, hs⟩, rfl, clientsStep_none _ rfl⟩
  case ret c pc rs hc hf =>
    exact ⟨.ret (c, pc) rs, ⟨hc, hf⟩, rfl, clientsStep_set hc (.inr (.inr ⟨rfl, nofun, rfl⟩))⟩
  case cancelSend c pc hc =>
    exact ⟨.cancelSend (c, pc), hc, rfl, clientsStep_set hc (.inr (.inr ⟨rfl, nofun, rfl⟩))⟩
  case cancelWait c pc hc =>
    exact ⟨.cancelWait (c, pc), hc, rfl, clientsStep_set hc (.inr (.inr ⟨rfl, nofun, rfl⟩))⟩
  case failSend c pc hc ha =>
    exact ⟨.fail (c, pc), ⟨ha, .inl hc⟩, rfl, clientsStep_set hc (.inr (.inr ⟨rfl, nofun, rfl⟩))⟩
  case failWait c pc hc ha hf =>
    exact ⟨.fail (c, pc), ⟨ha, .inr ⟨hc, hf⟩⟩, rfl,
      clientsStep_set hc (.inr (.inr ⟨rfl, nofun, rfl⟩))⟩

/-- a state and a label determine the transition: `step?` is a function -/
theorem Step.det {s1 s2 : State L Rq Rs} (h1 : Step M s lb s1) (h2 : Step M s lb s2) : s1 = s2 :=
  Option.some.inj ((step?_iff.mpr h1).symm.trans (step?_iff.mpr h2))

theorem inv_clients_length (h : Reach M n l0 s) : s.clients.length = n := by
  induction h with
  | init => simp [init]
  | step _ hst ih => cases hst <;> simp [ih]

theorem inv_tick_le (h : Reach M n l0 s) {e : Event Rq Rs} (he : e ∈ s.log) {c t : Nat}
    (ht : e.tick = some (c, t)) : c < n ∧ ∀ {cl}, s.clients[c]? = some cl → t ≤ cl.clock := by
  induction h with
  | init => cases he
  | step hs hst ih =>
    obtain ⟨e0, -, hlog, hcl⟩ := hst.shape
    rw [hlog, List.mem_append, List.mem_singleton] at he
    rcases hcl c with ⟨hsame, hne⟩ | ⟨cl, cl', hc, hc', hmv⟩
    · rw [hsame]
      exact ih (he.resolve_right fun h0 => hne t (h0 ▸ ht))
    · refine ⟨inv_clients_length hs ▸ (List.getElem?_eq_some_iff.mp hc).1, fun hc2 => ?_⟩
      cases hc'.symm.trans hc2
      obtain ⟨htk, hlt⟩ := hmv.tick
      rcases he with he | rfl
      · exact Nat.le_trans ((ih he).2 hc) (Nat.le_of_lt hlt)
      · cases htk.symm.trans ht
        exact Nat.le_refl _

/-- What a client's state says about the log: it has left all its earlier requests, has called the
    current one unless it is `idle`, and has enqueued it if it is `waiting`.  (For any `l ⊇ s.log`,
    so that the induction hypothesis speaks of the longer log at once.) -/
theorem inv_client (h : Reach M n l0 s) {c : Nat} {cl : Cl} (hc : s.clients[c]? = some cl)
    {l : List (Event Rq Rs)} (hl : s.log ⊆ l) :
    (∀ i, i < cl.pc → ∃ e ∈ l, e.finishes (c, i)) ∧
      (cl.st ≠ .idle → ∃ r, Event.call (c, cl.pc) r ∈ l) ∧
      (cl.st = .waiting → ∃ r, Event.enq (c, cl.pc) r ∈ l) := by
  induction h generalizing cl with
  | init =>
    cases List.eq_of_mem_replicate (List.mem_of_getElem? hc)
    exact ⟨nofun, fun h => absurd rfl h, nofun⟩
  | @step s s' lb hs hst ih =>
    obtain ⟨e0, -, hlog, hcl⟩ := hst.shape
    rw [hlog] at hl
    have hl0 : s.log ⊆ l := fun e he => hl (List.mem_append_left _ he)
    have h0 : e0 ∈ l := hl List.mem_concat_self
    rcases hcl c with ⟨hsame, -⟩ | ⟨cl0, cl', hc0, hc', hmv⟩
    · exact ih (hsame ▸ hc) hl0
    · cases hc'.symm.trans hc
      obtain ⟨h1, h2, -⟩ := ih hc0 hl0
      rcases hmv with ⟨⟨r, rfl⟩, -, rfl⟩ | ⟨⟨r, rfl⟩, hst0, rfl⟩ | ⟨hf, -, rfl⟩
      · exact ⟨h1, fun _ => ⟨r, h0⟩, nofun⟩
      · exact ⟨h1, fun _ => h2 (hst0 ▸ nofun), fun _ => ⟨r, h0⟩⟩
      · refine ⟨fun i hi => ?_, fun h => absurd rfl h, nofun⟩
        rcases Nat.lt_succ_iff_lt_or_eq.mp hi with hi | rfl
        · exact h1 i hi
        · exact ⟨e0, h0, hf⟩

theorem inv_queue_le_cap (h : Reach M n l0 s) : s.queue.length ≤ M.cap := by
  induction h with
  | init => exact Nat.zero_le _
  | step hs hst ih =>
    cases hst
    case enq hcap _ => rw [List.length_append]; exact hcap
    case proc hq _ =>
      rw [hq] at ih
      exact Nat.le_of_succ_le ih
    all_goals exact ih

theorem inv_fifo (h : Reach M n l0 s) :
    enqLog s.log = (procLog s.log).map (fun p => (p.1, p.2.1)) ++ s.queue := by
  induction h with
  | init => rfl
  | step hs hst ih =>
    cases hst
    case enq => simp [enqLog, procLog, ih]
    case proc hq _ => simp [enqLog, procLog, ih, hq]
    all_goals
      simp only [enqLog_append, procLog_append, enqLog, procLog, List.append_nil]
      exact ih

theorem inv_enq_iff (h : Reach M n l0 s) {id : Id} {r : Rq} :
    Event.enq id r ∈ s.log ↔ (∃ o, Event.proc id r o ∈ s.log) ∨ (id, r) ∈ s.queue := by
  simp [← mem_enqLog, inv_fifo h, mem_procLog]

theorem inv_enq_nodup (h : Reach M n l0 s) : ((enqLog s.log).map (·.1)).Nodup := by
  induction h with
  | init => simp [init, enqLog]
  | step hs hst ih =>
    cases hst
    case enq c pc r hc hr hcap ha =>
      simp only [enqLog_append, enqLog, List.map_append, List.map_cons, List.map_nil]
      refine List.nodup_append.mpr
        ⟨ih, List.nodup_cons.mpr ⟨List.not_mem_nil, List.nodup_nil⟩, fun a ha b hb hab => ?_⟩
      obtain ⟨⟨_, r'⟩, hm, rfl⟩ := List.mem_map.mp ha
      cases List.mem_singleton.mp hb
      cases hab
      exact absurd ((inv_tick_le hs (mem_enqLog.mp hm) rfl).2 hc) (Nat.lt_irrefl _)
    all_goals
      simp only [enqLog_append, enqLog, List.append_nil]
      exact ih

/-- `inv_enq_nodup` read through `inv_fifo`: no id is processed twice, none is queued twice, none
    is both -/
theorem inv_proc_queue_nodup (h : Reach M n l0 s) :
    ((procLog s.log).map (·.1)).Nodup ∧ (s.queue.map (·.1)).Nodup ∧
      ∀ a ∈ (procLog s.log).map (·.1), ∀ b ∈ s.queue.map (·.1), a ≠ b := by
  have hN := inv_enq_nodup h
  rwa [inv_fifo h, List.map_append, List.nodup_append, List.map_map] at hN

theorem inv_queue_not_processed (h : Reach M n l0 s) {id : Id} {r r' : Rq} {rs : Rs}
    (hq : (id, r) ∈ s.queue) (hp : Event.proc id r' rs ∈ s.log) : False :=
  (inv_proc_queue_nodup h).2.2 id (List.mem_map.mpr ⟨(id, r', rs), mem_procLog.mpr hp, rfl⟩) id
    (List.mem_map.mpr ⟨(id, r), hq, rfl⟩) rfl

theorem inv_replies (h : Reach M n l0 s) {id : Id} {rs : Rs} (hm : (id, rs) ∈ s.replies) :
    ∃ r, Event.proc id r rs ∈ s.log := by
  induction h with
  | init => cases hm
  | @step s s' lb hs hst ih =>
    have later : ∀ {e0 : Event Rq Rs}, (id, rs) ∈ s.replies → ∃ r, .proc id r rs ∈ s.log ++ [e0] :=
      fun hm => (ih hm).imp fun r => List.mem_append_left _
    cases hst
    case proc id' r q l' rs' ha hq hs' =>
      split at hm
      · exact later hm
      · rcases List.mem_append.mp hm with hm | hm
        · exact later hm
        · cases List.mem_singleton.mp hm
          exact ⟨r, List.mem_concat_self⟩
    case ret | cancelWait => exact later (mem_dropReply.mp hm).1
    all_goals exact later hm

theorem inv_abandoned (h : Reach M n l0 s) {id : Id} (hm : id ∈ s.abandoned) :
    Event.cancelWait id ∈ s.log := by
  induction h with
  | init => cases hm
  | step hs hst ih =>
    cases hst
    case cancelWait c pc hc =>
      rcases List.mem_cons.mp hm with rfl | hm
      · exact List.mem_concat_self
      · exact List.mem_append_left _ (ih hm)
    all_goals exact List.mem_append_left _ (ih hm)

theorem inv_answered (h : Reach M n l0 s) {a : Id} {r : Rq} {rs : Rs}
    (hp : Event.proc a r rs ∈ s.log) :
    (a, rs) ∈ s.replies ∨ ∃ e ∈ s.log, e.finishes a := by
  induction h with
  | init => cases hp
  | @step s s' lb hs hst ih =>
    have later : ∀ {e0 : Event Rq Rs},
        (∃ e ∈ s.log, e.finishes a) → ∃ e ∈ s.log ++ [e0], e.finishes a :=
      fun ⟨e, hm, hf⟩ => ⟨e, List.mem_append_left _ hm, hf⟩
    cases hst <;> simp only [List.mem_append, List.mem_singleton, reduceCtorEq, or_false] at hp
    case proc a' r' q l' rs' ha hq hs' =>
      rcases hp with hp | hp
      · refine (ih hp).imp (fun hm => ?_) later
        split
        · exact hm
        · exact List.mem_append_left _ hm
      · cases hp
        -- `proc` discards the reply only if the slot was abandoned: then the client has left
        by_cases hab : a ∈ s.abandoned
        · exact .inr ⟨_, List.mem_append_left _ (inv_abandoned hs hab), rfl⟩
        · exact .inl (by rw [if_neg hab]; exact List.mem_concat_self)
    case ret c pc _ _ _ | cancelWait c pc _ =>
      by_cases hid : a = (c, pc)
      · exact .inr ⟨_, List.mem_concat_self, hid.symm⟩
      · exact (ih hp).imp (fun hm => mem_dropReply.mpr ⟨hm, hid⟩) later
    all_goals exact (ih hp).imp id later

theorem inv_no_stale_slot (h : Reach M n l0 s) {c pc : Nat}
    (hc : s.clients[c]? = some ⟨pc, .idle⟩) :
    (∀ o, ((c, pc), o) ∉ s.replies) ∧ (c, pc) ∉ s.abandoned := by
  constructor
  · intro o ho
    obtain ⟨r, hp⟩ := inv_replies h ho
    exact absurd ((inv_tick_le h ((inv_enq_iff h).mpr (.inl ⟨o, hp⟩)) rfl).2 hc)
      (Nat.not_le_of_lt (Cl.clock_idle_lt pc 1))
  · intro ha
    exact absurd ((inv_tick_le h (inv_abandoned h ha) rfl).2 hc)
      (Nat.not_le_of_lt (Cl.clock_idle_lt pc 2))

theorem inv_alive (h : Reach M n l0 s) : s.alive = false ↔ ∃ id r, Event.panic id r ∈ s.log := by
  induction h with
  | init => simp [init]
  | step hs hst ih =>
    cases hst
    case actorPanic id r q ha hq hs' => exact ⟨fun _ => ⟨id, r, List.mem_concat_self⟩, fun _ => rfl⟩
    all_goals
      simp only [List.mem_append, List.mem_singleton, reduceCtorEq, or_false]
      exact ih

theorem inv_sequential (h : Reach M n l0 s) :
    seqRun M.lim l0 ((procLog s.log).map (·.2.1)) = some (s.lim, (procLog s.log).map (·.2.2)) := by
  induction h with
  | init => simp [init, procLog, seqRun]
  | step hs hst ih =>
    cases hst
    case proc id r q l' rs ha hq hs' =>
      simp only [procLog_append, procLog, List.map_append, List.map_cons, List.map_nil]
      exact seqRun_snoc ih hs'
    all_goals
      simp only [procLog_append, procLog, List.append_nil]
      exact ih

end TcVerif.Actor
