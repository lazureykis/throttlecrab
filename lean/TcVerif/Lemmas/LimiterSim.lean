/-
  Two stores related by a simulation give the same limiter: responses, store-operation traces and
  related final states.  On the built-in stores the write after a read at the same instant
  succeeds, so a call is one pass.
-/
import TcVerif.Lemmas.StoreSim
namespace TcVerif

/-- `S` and `T` simulate each other (relation `R`, indexed by the current time) on every
    operation whose key satisfies `P`. -/
structure OpsSimOn {σ τ : Type} (P : Key → Prop) (S : StoreOps σ) (T : StoreOps τ) (R : Int → σ → τ → Prop) : Prop where
  mono : ∀ {now now' : Int} {s : σ} {t : τ}, now ≤ now' → R now s t → R now' s t
  get : ∀ {now : Int} {s : σ} {t : τ} (k : Key), P k → R now s t → S.get s k now = T.get t k now
  cas : ∀ {now : Int} {s : σ} {t : τ} (k : Key) (old new ttl : Int), P k → R now s t →
    (S.cas s k old new ttl now).2 = (T.cas t k old new ttl now).2 ∧
    R now (S.cas s k old new ttl now).1 (T.cas t k old new ttl now).1
  setnx : ∀ {now : Int} {s : σ} {t : τ} (k : Key) (v ttl : Int), P k → R now s t →
    (S.setnx s k v ttl now).2 = (T.setnx t k v ttl now).2 ∧
    R now (S.setnx s k v ttl now).1 (T.setnx t k v ttl now).1

abbrev OpsSim {σ τ : Type} (S : StoreOps σ) (T : StoreOps τ) (R : Int → σ → τ → Prop) : Prop :=
  OpsSimOn (fun _ => True) S T R

theorem anyStore_sim_amap : OpsSim AnyStore.ops AMap.ops SimStore where
  mono := sim_mono
  get := fun k _ hs => simStore_get hs k
  cas := fun k old new ttl _ hs => simStore_put hs k (some old) new ttl
  setnx := fun k v ttl _ hs => simStore_put hs k none v ttl

variable {σ τ : Type} {S : StoreOps σ} {T : StoreOps τ} {R : Int → σ → τ → Prop} {P : Key → Prop}

theorem OpsSimOn.put (h : OpsSimOn P S T R) {now : Int} {s : σ} {t : τ} (k : Key) (tv : Option Int)
    (new ttl : Int) (hp : P k) (hr : R now s t) :
    (S.put s k tv new ttl now).2 = (T.put t k tv new ttl now).2 ∧
    R now (S.put s k tv new ttl now).1 (T.put t k tv new ttl now).1 := by
  cases tv with
  | some old => exact h.cas k old new ttl hp hr
  | none => exact h.setnx k new ttl hp hr

theorem rlLoop_sim (h : OpsSimOn P S T R) (fuel : Nat) (s : σ) (t : τ) (E : Int) (r : Req)
    (tr : List StoreOp) (hp : P r.key) (hr : R r.now s t) :
    (rlLoop S fuel s E r tr).2 = (rlLoop T fuel t E r tr).2 ∧
    R r.now (rlLoop S fuel s E r tr).1 (rlLoop T fuel t E r tr).1 := by
  induction fuel generalizing s t tr with
  | zero => exact ⟨rfl, hr⟩
  | succ n ih =>
    obtain ⟨h1, h2⟩ := h.put r.key (T.get t r.key r.now) (decision E r (T.get t r.key r.now)).newTat
      (decision E r (T.get t r.key r.now)).ttl hp hr
    simp only [rlLoop_succ, h.get r.key hp hr, h1]
    cases (decision E r (T.get t r.key r.now)).write with
    | false => exact ⟨rfl, hr⟩
    | true =>
      rw [if_pos rfl, if_pos rfl]
      split
      · exact ⟨rfl, h2⟩
      · exact ih _ _ _ h2

theorem rateLimitE_sim (h : OpsSimOn P S T R) (s : σ) (t : τ) (E : Int) (r : Req) (hp : P r.key) (hr : R r.now s t) :
    (rateLimitE S s E r).2 = (rateLimitE T t E r).2 ∧
    R r.now (rateLimitE S s E r).1 (rateLimitE T t E r).1 := by
  by_cases hv : r.valid
  · rw [rateLimitE_valid S s E r hv, rateLimitE_valid T t E r hv]
    exact rlLoop_sim h _ s t E r [] hp hr
  · rw [rateLimitE_invalid S s E r hv, rateLimitE_invalid T t E r hv]
    exact ⟨rfl, hr⟩

def MonotoneFrom (t0 : Int) (rs : List Req) : Prop := NonDecreasingFrom t0 (rs.map (·.now))

instance (t0 : Int) (rs : List Req) : Decidable (MonotoneFrom t0 rs) := by unfold MonotoneFrom; exact inferInstance

theorem nonDecreasingFrom_weaken {t0 t1 : Int} {l : List Int} (h : t0 ≤ t1) (hl : NonDecreasingFrom t1 l) :
    NonDecreasingFrom t0 l := by
  cases l with
  | nil => trivial
  | cons t rest => exact ⟨by have := hl.1; omega, hl.2⟩

theorem monotoneFrom_filter (p : Req → Bool) (t0 : Int) (rs : List Req) (h : MonotoneFrom t0 rs) :
    MonotoneFrom t0 (rs.filter p) := by
  induction rs generalizing t0 with
  | nil => trivial
  | cons r rs ih =>
    obtain ⟨h0, h1⟩ := h
    by_cases hp : p r = true
    · simp only [List.filter, hp]
      exact ⟨h0, ih r.now h1⟩
    · simp only [List.filter, hp]
      exact nonDecreasingFrom_weaken h0 (ih r.now h1)

/-- the state in which `runTagged`, which returns the responses only, leaves the store -/
def stateAfter {σ : Type} (S : StoreOps σ) (ei : Int → Int → Int) : σ → List Req → σ
  | s, [] => s
  | s, r :: rs => stateAfter S ei (rateLimitE S s (ei r.count r.period) r).1 rs

theorem runTagged_append {σ : Type} (S : StoreOps σ) (ei : Int → Int → Int) (s : σ) (pre post : List Req) :
    runTagged S ei s (pre ++ post) = runTagged S ei s pre ++ runTagged S ei (stateAfter S ei s pre) post := by
  induction pre generalizing s with
  | nil => rfl
  | cons r rs ih => simp only [List.cons_append, runTagged, stateAfter, ih]

theorem runTagged_map_fst {σ : Type} (S : StoreOps σ) (ei : Int → Int → Int) (s : σ) (rs : List Req) :
    (runTagged S ei s rs).map (·.1) = rs := by
  induction rs generalizing s with
  | nil => rfl
  | cons r rs ih => simp only [runTagged, List.map_cons, ih]

theorem runTagged_sim (h : OpsSimOn P S T R) (ei : Int → Int → Int) (rs : List Req) (t0 : Int)
    (s : σ) (t : τ) (hr : R t0 s t) (hm : MonotoneFrom t0 rs) (hp : ∀ r ∈ rs, P r.key) :
    runTagged S ei s rs = runTagged T ei t rs := by
  induction rs generalizing s t t0 with
  | nil => rfl
  | cons r rs ih =>
    obtain ⟨h1, h2⟩ := rateLimitE_sim h s t (ei r.count r.period) r (hp r (List.mem_cons_self ..))
      (h.mono hm.1 hr)
    simp only [runTagged]
    rw [h1, ih r.now _ _ h2 hm.2 (fun r' hr' => hp r' (List.mem_cons_of_mem _ hr'))]

theorem runTagged_fresh (ei : Int → Int → Int) (rs : List Req) (t0 : Int) (st : AnyStore)
    (hst : st.data = []) (hm : MonotoneFrom t0 rs) :
    runTagged AnyStore.ops ei st rs = runTagged AMap.ops ei AMap.empty rs :=
  runTagged_sim anyStore_sim_amap ei rs t0 st AMap.empty (simStore_fresh st hst t0) hm (fun _ _ => trivial)

theorem applyOp_sim (h : OpsSim S T R) (s : σ) (t : τ) (op : SOp) (hr : R op.now s t) :
    (applyOp S s op).2 = (applyOp T t op).2 ∧ R op.now (applyOp S s op).1 (applyOp T t op).1 := by
  cases op with
  | get k now => exact ⟨congrArg SRes.val (h.get k trivial hr), hr⟩
  | cas k old new ttl now => exact (h.cas k old new ttl trivial hr).imp_left (congrArg SRes.flag)
  | setnx k v ttl now => exact (h.setnx k v ttl trivial hr).imp_left (congrArg SRes.flag)

theorem runOps_sim (h : OpsSim S T R) (ops : List SOp) (t0 : Int) (s : σ) (t : τ)
    (hr : R t0 s t) (hm : NonDecreasingFrom t0 (ops.map (·.now))) :
    runOps S s ops = runOps T t ops := by
  induction ops generalizing s t t0 with
  | nil => rfl
  | cons op ops ih =>
    obtain ⟨h1, h2⟩ := applyOp_sim h s t op (h.mono hm.1 hr)
    simp only [runOps]
    rw [h1, ih op.now _ _ h2 hm.2]

/-- on a built-in store with unique keys the write that follows a `get` at the same instant succeeds -/
theorem rateLimitE_anyStore (st : AnyStore) (hd : Data.NodupKeys st.data) (E : Int) (r : Req) (hv : r.valid) :
    rateLimitE AnyStore.ops st E r =
      (if (decision E r (AnyStore.ops.get st r.key r.now)).write
         then (AnyStore.ops.put st r.key (AnyStore.ops.get st r.key r.now)
                (decision E r (AnyStore.ops.get st r.key r.now)).newTat
                (decision E r (AnyStore.ops.get st r.key r.now)).ttl r.now).1
         else st,
       (decision E r (AnyStore.ops.get st r.key r.now)).outcome,
       passOps E r (AnyStore.ops.get st r.key r.now)) :=
  rateLimitE_one_pass AnyStore.ops st E r hv (fun _ => anyStore_put_succeeds st hd r.key _ _ r.now)

/-- `SimStore` carries the unique keys of the concrete side -/
theorem rateLimitE_nodup (st : AnyStore) (hd : Data.NodupKeys st.data) (E : Int) (r : Req) :
    Data.NodupKeys (rateLimitE AnyStore.ops st E r).1.data :=
  (rateLimitE_sim anyStore_sim_amap st ⟨st.data⟩ E r trivial (sim_refl hd)).2.nodup

theorem stateAfter_nodup (ei : Int → Int → Int) (st : AnyStore) (hd : Data.NodupKeys st.data) (rs : List Req) :
    Data.NodupKeys (stateAfter AnyStore.ops ei st rs).data := by
  induction rs generalizing st with
  | nil => exact hd
  | cons r rs ih => exact ih _ (rateLimitE_nodup st hd _ r)

end TcVerif
