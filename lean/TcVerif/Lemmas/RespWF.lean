/-
  Well-formed values round-trip through `encode` / `decode`; headers beyond the limits and
  nesting beyond the limit are rejected.  (That decoded values are well-formed is part of
  `decode_local`.)  `X_frame`: what decoder `X` returns on the encoding of a value followed by
  arbitrary bytes `x`.
-/
import TcVerif.Lemmas.RespDecode
import TcVerif.Lemmas.RespInt
import TcVerif.Lemmas.RespUtf8

namespace TcVerif.Resp

open TcVerif.Gen

theorem header_of_line {mx : Nat} {d l n k} (hl : readLine d = some (l, n))
    (hk : parseHdrInt (l.drop 1) = some k) :
    header mx d = if k = -1 then .null n else if k < 0 ∨ k > (mx : Int) then .error
      else .len n k.toNat := by
  unfold header
  rw [hl]; simp only [hk]

theorem header_reject {mx : Nat} {d l n k} (hl : readLine d = some (l, n))
    (hk : parseHdrInt (l.drop 1) = some k) (hbad : k < -1 ∨ k > (mx : Int)) :
    header mx d = .error := by
  rw [header_of_line hl hk, if_neg (by omega), if_pos (by omega)]

theorem validUtf8_noCRLF_of_ascii_no_cr {l : List UInt8} (h : ∀ c ∈ l, c < 128 ∧ c ≠ 13) :
    validUtf8 l = true ∧ noCRLF l = true :=
  ⟨validUtf8_ascii _ fun c hc => (h c hc).1, noCRLF_no_cr _ fun c hc => (h c hc).2⟩

theorem header_frame (mx : Nat) (t : UInt8) (k : Nat) (rest : List UInt8) (ht : t ≠ 13)
    (hk : k ≤ mx) (hmx : mx ≤ I64_MAX_NAT) :
    header mx (t :: (renderNat k ++ crlf) ++ rest) = .len (t :: (renderNat k ++ crlf)).length k := by
  have ⟨h2, h1⟩ := validUtf8_noCRLF_of_ascii_no_cr (renderNat_ascii_no_cr k)
  have hp : parseHdrInt ((t :: renderNat k).drop 1) = some (k : Int) := by
    simp only [List.drop_succ_cons, List.drop_zero, parseHdrInt, h2, if_true,
      parseI64_renderNat (Nat.le_trans hk hmx)]
  rw [header_of_line (readLine_frame t (renderNat k) rest ht h1) hp, if_neg (by omega),
    if_neg (by omega), Int.toNat_natCast]
  simp [crlf]

theorem decodeLine_frame (mk : List UInt8 → Value) {t : UInt8} {s : List UInt8} (x : List UInt8)
    (ht : t ≠ 13) (hv : validUtf8 s = true) (hc : noCRLF s = true) :
    decodeLine mk (t :: (s ++ crlf) ++ x) = .ok (mk s) (t :: (s ++ crlf)).length := by
  rw [decodeLine, readLine_frame t s x ht hc]
  simp [hv, crlf]

theorem decodeInt_frame {n : Int} (x : List UInt8) (h : inI64 n = true) :
    decodeInt (58 :: (renderInt n ++ crlf) ++ x) = .ok (.int n) (58 :: (renderInt n ++ crlf)).length := by
  have ⟨h2, h1⟩ := validUtf8_noCRLF_of_ascii_no_cr (renderInt_ascii_no_cr n)
  rw [decodeInt, readLine_frame 58 _ x (by decide) h1]
  simp [parseHdrInt, h2, parseI64_renderInt h, crlf]

theorem decodeBulk_null_frame (x : List UInt8) :
    decodeBulk (36 :: ([45, 49] ++ crlf) ++ x) = .ok (.bulk none) 5 := by
  have hh : header RESP_MAX_BULK (36 :: ([45, 49] ++ crlf) ++ x) = .null 5 := by
    unfold header
    rw [readLine_frame 36 [45, 49] x (by decide) (by decide)]
    rfl
  rw [decodeBulk, hh]

theorem decodeBulk_frame {s : List UInt8} (x : List UInt8) (hv : validUtf8 s = true)
    (hl : s.length ≤ RESP_MAX_BULK) :
    decodeBulk (36 :: (renderNat s.length ++ crlf ++ (s ++ crlf)) ++ x)
      = .ok (.bulk (some s)) (36 :: (renderNat s.length ++ crlf ++ (s ++ crlf))).length := by
  have e : 36 :: (renderNat s.length ++ crlf ++ (s ++ crlf)) ++ x
      = 36 :: (renderNat s.length ++ crlf) ++ (s ++ (crlf ++ x)) := by simp
  rw [e, decodeBulk, header_frame RESP_MAX_BULK 36 s.length _ (by decide) hl (by decide)]
  simp only [List.drop_left, List.take_left]
  rw [if_neg (by simp only [crlf, List.length_append, List.length_cons, List.length_nil]; omega),
    if_pos hv]
  simp only [crlf, List.length_append, List.length_cons, List.length_nil, DecodeResult.ok.injEq,
    true_and]
  omega

theorem roundtrip_scalar {v : Value} (h : sizesOk v = true) (hd : depth v = 0) (fuel : Nat)
    (x : List UInt8) : decode fuel (encode v ++ x) = .ok v (encode v).length := by
  cases v with
  | simple s =>
    simp only [sizesOk, Bool.and_eq_true] at h
    exact (decode_simple fuel _).trans (decodeLine_frame .simple x (by decide) h.1 h.2)
  | error s =>
    simp only [sizesOk, Bool.and_eq_true] at h
    exact (decode_error fuel _).trans (decodeLine_frame .error x (by decide) h.1 h.2)
  | int n => exact (decode_int fuel _).trans (decodeInt_frame x h)
  | bulk s =>
    cases s with
    | none => exact (decode_bulk fuel _).trans (decodeBulk_null_frame x)
    | some s =>
      simp only [sizesOk, Bool.and_eq_true, decide_eq_true_eq] at h
      exact (decode_bulk fuel _).trans (decodeBulk_frame x h.1 h.2)
  | array xs => simp [depth] at hd

theorem roundtripList_of {fuel : Nat} (ih : ∀ v, sizesOk v = true → depth v ≤ fuel →
      ∀ x, decode fuel (encode v ++ x) = .ok v (encode v).length) :
    ∀ (vs : List Value), sizesOkList vs = true → depthList vs ≤ fuel →
    ∀ x, decodeElemsWith (decode fuel) vs.length (encodeList vs ++ x)
      = .ok vs (encodeList vs).length
  | [], _, _, _ => by simp [decodeElemsWith, encodeList]
  | v :: vs, h, hd, x => by
    simp only [sizesOkList, Bool.and_eq_true] at h
    rw [depthList, Nat.max_le] at hd
    simp only [encodeList, List.length_cons, decodeElemsWith, List.append_assoc]
    rw [ih v h.1 hd.1 (encodeList vs ++ x)]
    simp only [List.drop_left]
    rw [roundtripList_of ih vs h.2 hd.2 x]
    simp

theorem roundtrip : ∀ (v : Value) (fuel : Nat), sizesOk v = true → depth v ≤ fuel →
    ∀ x, decode fuel (encode v ++ x) = .ok v (encode v).length := by
  intro v fuel
  induction fuel generalizing v with
  | zero => exact fun h hd x => roundtrip_scalar h (Nat.le_zero.mp hd) 0 x
  | succ f ih =>
    intro h hd x
    cases v with
    | array xs =>
      simp only [sizesOk, Bool.and_eq_true, decide_eq_true_eq] at h
      simp only [depth] at hd
      have e : encode (.array xs) ++ x
          = 42 :: ((renderNat xs.length ++ crlf) ++ (encodeList xs ++ x)) := by simp [encode]
      rw [e, decode_array_succ f _, ← List.cons_append,
        header_frame RESP_MAX_ARRAY 42 xs.length _ (by decide) h.1 (by decide)]
      simp only [List.drop_left]
      rw [roundtripList_of ih xs h.2 (by omega) x]
      -- consumed: the header, then the elements; and that is the whole frame
      show DecodeResult.ok _ _ = .ok _ (42 :: (renderNat xs.length ++ crlf) ++ encodeList xs).length
      rw [List.length_append]
    | _ => exact roundtrip_scalar h rfl _ x

theorem roundtripList : ∀ (vs : List Value) (fuel : Nat), sizesOkList vs = true →
    depthList vs ≤ fuel →
    ∀ x, decodeElemsWith (decode fuel) vs.length (encodeList vs ++ x)
      = .ok vs (encodeList vs).length :=
  fun vs fuel => roundtripList_of (fun v => roundtrip v fuel) vs

theorem sizesOkList_mem {xs : List Value} (h : sizesOkList xs = true) : ∀ x ∈ xs, sizesOk x = true := by
  induction xs with
  | nil => intro x hx; cases hx
  | cons y ys ih =>
    simp only [sizesOkList, Bool.and_eq_true] at h
    intro x hx
    rcases List.mem_cons.mp hx with rfl | hx
    · exact h.1
    · exact ih h.2 x hx

theorem depthList_mem (xs : List Value) : ∀ x ∈ xs, depth x ≤ depthList xs := by
  induction xs with
  | nil => intro x hx; cases hx
  | cons y ys ih =>
    intro x hx
    simp only [depthList]
    rcases List.mem_cons.mp hx with rfl | hx
    · exact Nat.le_max_left ..
    · exact Nat.le_trans (ih x hx) (Nat.le_max_right ..)

theorem WF_iff {v : Value} : WF v ↔ sizesOk v = true ∧ depth v ≤ RESP_MAX_DEPTH := by
  simp only [WF, wf, Bool.and_eq_true, decide_eq_true_eq]

theorem WF_bulk {s : List UInt8} (h : WF (.bulk (some s))) :
    validUtf8 s = true ∧ s.length ≤ RESP_MAX_BULK := by
  simpa only [sizesOk, Bool.and_eq_true, decide_eq_true_eq] using (WF_iff.mp h).1

theorem WF_array_mem {xs : List Value} (h : WF (.array xs)) : ∀ x ∈ xs, WF x := by
  intro x hx
  rw [WF_iff] at h ⊢
  simp only [sizesOk, Bool.and_eq_true, decide_eq_true_eq, depth] at h
  have := depthList_mem xs x hx
  exact ⟨sizesOkList_mem h.1.2 x hx, Nat.le_trans this (Nat.le_trans (Nat.le_add_left _ 1) h.2)⟩

theorem decode_too_deep : ∀ (f : Nat) (x : List UInt8),
    decode f ((List.replicate f b!"*1\r\n").flatten ++ 42 :: x) = .error
  | 0, x => decode_array_zero x
  | f + 1, x => by
    have e : (List.replicate (f + 1) b!"*1\r\n").flatten ++ 42 :: x
        = 42 :: ((renderNat 1 ++ crlf) ++ ((List.replicate f b!"*1\r\n").flatten ++ 42 :: x)) := by
      simp only [List.replicate_succ, List.flatten_cons, List.append_assoc]; rfl
    rw [e, decode_array_succ f _, ← List.cons_append,
      header_frame RESP_MAX_ARRAY 42 1 _ (by decide) (by decide) (by decide)]
    simp only [List.drop_left, decodeElemsWith, decode_too_deep f x]

end TcVerif.Resp
