/-
  The accounting invariant of the concurrency model: `counter c + pending c = due c` (increments of
  `c` still owed by the calls in flight; increments of `c` of all calls ever started) holds in every
  reachable state, for every interleaving.
-/
import TcVerif.Model.Metrics

namespace TcVerif.Metrics

theorem get_bump (c : Counters) (x y : Counter) :
    (c.bump x).get y = c.get y + if x = y then 1 else 0 := by
  cases x <;> cases y <;> rfl

def pending (fs : List Flight) (c : Counter) : Nat := (fs.map fun f => f.remaining.count c).sum

def due (h : List Event) (c : Counter) : Nat := (h.map fun e => e.incs.count c).sum

theorem pending_nil (c : Counter) : pending [] c = 0 := rfl

theorem pending_cons (f : Flight) (fs : List Flight) (c : Counter) :
    pending (f :: fs) c = f.remaining.count c + pending fs c := rfl

theorem pending_append (a b : List Flight) (c : Counter) :
    pending (a ++ b) c = pending a c + pending b c := by
  simp [pending, List.sum_append]

theorem due_cons (e : Event) (h : List Event) (c : Counter) :
    due (e :: h) c = e.incs.count c + due h c := rfl

theorem pending_of_quiescent {fs : List Flight} (h : ∀ f ∈ fs, f.remaining = []) (c : Counter) :
    pending fs c = 0 := by
  induction fs with
  | nil => rfl
  | cons f fs ih =>
    rw [List.forall_mem_cons] at h
    rw [pending_cons, h.1, ih h.2]
    rfl

/-- The call shapes listed for the increment tables (`requestEvents`, `errorEvents`) are all the
    events there are, so a decidable property of events is checked on those nine. -/
theorem forall_event {P : Event → Prop} (h : ∀ e ∈ requestEvents ++ errorEvents, P e) (e : Event) :
    P e :=
  h e (by
    cases e with
    | request t a => cases t <;> cases a <;> decide
    | error t => cases t <;> decide)

theorem incs_count_total : ∀ e : Event, e.incs.count .total = 1 := forall_event (by decide)

theorem incs_count_allowed :
    ∀ e : Event, e.incs.count .allowed = if e.isAllowed then 1 else 0 :=
  forall_event (by decide)

theorem incs_count_denied : ∀ e : Event, e.incs.count .denied = if e.isDenied then 1 else 0 :=
  forall_event (by decide)

theorem incs_count_errors : ∀ e : Event, e.incs.count .errors = if e.isError then 1 else 0 :=
  forall_event (by decide)

theorem incs_count_transport (t : Transport) :
    ∀ e : Event, e.incs.count t.counter = if e.onTransport t then 1 else 0 := by
  cases t <;> exact forall_event (by decide)

theorem incs_count_total_eq_transports : ∀ e : Event,
    e.incs.count .total = e.incs.count .http + e.incs.count .grpc + e.incs.count .redis :=
  forall_event (by decide)

theorem incs_count_total_eq_outcomes : ∀ e : Event,
    e.incs.count .total = e.incs.count .allowed + e.incs.count .denied + e.incs.count .errors :=
  forall_event (by decide)

theorem due_eq_countP (h : List Event) (c : Counter) (p : Event → Bool)
    (hp : ∀ e : Event, e.incs.count c = if p e then 1 else 0) : due h c = h.countP p := by
  induction h with
  | nil => rfl
  | cons e h ih =>
    rw [due_cons, hp e, ih, List.countP_cons]
    omega

theorem due_total (h : List Event) : due h .total = h.length :=
  (due_eq_countP h .total (fun _ => true) incs_count_total).trans (congrFun List.countP_true h)

theorem get_foldl_bump (l : List Counter) (c : Counters) (x : Counter) :
    (l.foldl Counters.bump c).get x = c.get x + l.count x := by
  induction l generalizing c with
  | nil => rfl
  | cons y l ih =>
    rw [List.foldl_cons, ih, get_bump, List.count_cons]
    simp only [beq_iff_eq]
    omega

theorem get_record (c : Counters) (e : Event) (x : Counter) :
    (c.record e).get x = c.get x + e.incs.count x := get_foldl_bump _ _ _

theorem get_recordAll (es : List Event) (c : Counters) (x : Counter) :
    (c.recordAll es).get x = c.get x + due es x := by
  induction es generalizing c with
  | nil => rfl
  | cons e es ih =>
    rw [Counters.recordAll, List.foldl_cons, ← Counters.recordAll, ih, get_record, due_cons]
    omega

/-- second clause: program order; a call in flight still owes a suffix of its increments -/
def Inv (s : State) : Prop :=
  (∀ c, s.counters.get c + pending s.flights c = due s.history c) ∧
  ∀ f ∈ s.flights, f.remaining <:+ f.event.incs

theorem inv_step {s s' : State} (hi : Inv s) (hs : Step s s') : Inv s' := by
  obtain ⟨hc, hf⟩ := hi
  cases hs with
  | start e =>
    refine ⟨fun c => ?_, List.forall_mem_cons.mpr ⟨List.suffix_refl _, hf⟩⟩
    rw [pending_cons, due_cons, ← hc c]
    exact Nat.add_left_comm ..
  | inc pre post e x rest hfl =>
    rw [hfl] at hc hf
    simp only [List.forall_mem_append, List.forall_mem_cons] at hf
    refine ⟨fun c => ?_, List.forall_mem_append.mpr ⟨hf.1, List.forall_mem_cons.mpr
      ⟨(List.suffix_cons x rest).trans hf.2.1, hf.2.2⟩⟩⟩
    have := hc c
    simp only [pending_append, pending_cons, List.count_cons, beq_iff_eq, get_bump] at this ⊢
    omega
  | finish pre post e hfl =>
    rw [hfl] at hc hf
    simp only [List.forall_mem_append, List.forall_mem_cons] at hf
    refine ⟨fun c => ?_, List.forall_mem_append.mpr ⟨hf.1, hf.2.2⟩⟩
    have := hc c
    rwa [pending_append, pending_cons, List.count_nil, Nat.zero_add, ← pending_append] at this

theorem inv_of_reachable {s : State} (hr : Reachable s) : Inv s := by
  induction hr with
  | init => exact ⟨fun c => by cases c <;> rfl, fun f hf => nomatch hf⟩
  | step _ hs ih => exact inv_step ih hs

theorem get_eq_due {s : State} (hr : Reachable s) (hq : Quiescent s) (c : Counter) :
    s.counters.get c = due s.history c := by
  have h := (inv_of_reachable hr).1 c
  rw [pending_of_quiescent hq] at h
  exact h

/-- `total` is bumped first: a proper suffix of a call's increments no longer contains it -/
theorem suffix_incs_eq_or_no_total {e : Event} {r : List Counter} (h : r <:+ e.incs) :
    r = e.incs ∨ .total ∉ r := by
  have hn : .total ∉ e.incs.tail := forall_event (P := fun e => .total ∉ e.incs.tail) (by decide) e
  cases e <;> exact (List.suffix_cons_iff.mp h).imp_right fun h hm => hn (h.subset hm)

/-! Any three counters `a b c` of which every call bumps exactly one: the transports; the
outcomes. -/

section Breakdown

variable {a b c : Counter}
  (hev : ∀ e : Event, e.incs.count .total = e.incs.count a + e.incs.count b + e.incs.count c)
include hev

theorem due_total_eq (h : List Event) : due h .total = due h a + due h b + due h c := by
  induction h with
  | nil => rfl
  | cons e h ih =>
    simp only [due_cons, hev e]
    omega

theorem suffix_total_le {e : Event} {r : List Counter} (h : r <:+ e.incs) :
    r.count .total ≤ r.count a + r.count b + r.count c := by
  rcases suffix_incs_eq_or_no_total h with rfl | h
  · exact Nat.le_of_eq (hev e)
  · rw [List.count_eq_zero_of_not_mem h]
    exact Nat.zero_le _

theorem pending_total_le {fs : List Flight} (h : ∀ f ∈ fs, f.remaining <:+ f.event.incs) :
    pending fs .total ≤ pending fs a + pending fs b + pending fs c := by
  induction fs with
  | nil => exact Nat.le_refl _
  | cons f fs ih =>
    rw [List.forall_mem_cons] at h
    have := suffix_total_le hev h.1
    have := ih h.2
    simp only [pending_cons]
    omega

theorem breakdown_le_total {s : State} (hi : Inv s) :
    s.counters.get a + s.counters.get b + s.counters.get c ≤ s.counters.get .total := by
  have := due_total_eq hev s.history
  have := pending_total_le hev hi.2
  have := hi.1 .total
  have := hi.1 a
  have := hi.1 b
  have := hi.1 c
  omega

end Breakdown

end TcVerif.Metrics
