/-
  Command layer (`plan`, `respondS`, `replies` over a command sequence): every reply is a
  well-formed value.
  RespPlan is imported because it also goes through `plan` and `handleThrottle` by `fun_cases`: the
  case principles Lean derives for that must come from one module, or importing both fails.
-/
import TcVerif.Lemmas.RespWF
import TcVerif.Lemmas.RespPlan

namespace TcVerif.Resp

/-- what the theorems assume about the limiter's answer: integers are `i64`s, the error text (the
    `{e}` of `format!("ERR {e}")`, a Rust `String`) is valid UTF-8 and has no CR LF -/
def AnswerOK : ActorAnswer → Prop
  | .ok _ l r rs rt => inI64 l = true ∧ inI64 r = true ∧ inI64 rs = true ∧ inI64 rt = true
  | .err msg => validUtf8 msg = true ∧ noCRLF msg = true

theorem WF_error_of {s : List UInt8} (h1 : validUtf8 s = true) (h2 : noCRLF s = true) :
    WF (.error s) := by
  rw [WF_iff]; simp [sizesOk, depth, h1, h2]

theorem handlePing_wf {args : List Value} (h : ∀ x ∈ args, WF x) : WF (handlePing args) := by
  unfold handlePing
  split
  · decide
  · exact h _ (by simp)
  · decide

theorem handleThrottle_wf {args : List Value} {r : Value} (h : handleThrottle args = .reply r) :
    WF r := by
  -- every branch is a `.send` or replies with a fixed error text
  revert h
  fun_cases handleThrottle args
  all_goals rintro ⟨⟩
  all_goals decide

theorem unknown_wf {up : List UInt8} (h : validUtf8 up = true) :
    WF (.error (b!"ERR unknown command '" ++ sanitize up ++ b!"'")) := by
  apply WF_error_of
  · exact validUtf8_append _ _ (validUtf8_append _ _ (by decide) (validUtf8_sanitize h)) (by decide)
  · apply noCRLF_no_cr
    intro c hc
    simp only [List.mem_append] at hc
    rcases hc with (hc | hc) | hc
    · revert c; decide
    · exact sanitize_no_cr up c hc
    · revert c; decide

theorem plan_reply_wf {v : Value} {upper : Option (List UInt8)} {r : Value} (hv : WF v)
    (hu : ∀ u, upper = some u → validUtf8 u = true) (h : plan v upper = .reply r) : WF r := by
  revert h
  fun_cases plan v upper
  -- the fixed texts (the early returns, QUIT) first; PING, THROTTLE and the unknown command are left
  any_goals (rintro ⟨⟩; decide)
  · rintro ⟨⟩; exact handlePing_wf (WF_array_mem hv)
  · exact handleThrottle_wf
  · rintro ⟨⟩; exact unknown_wf (hu _ rfl)

theorem boolInt_range (b : Bool) : inI64 (boolInt b) = true := by cases b <;> decide

theorem finish_wf {a : ActorAnswer} (ha : AnswerOK a) : WF (finish a) := by
  cases a with
  | ok al l r rs rt =>
    simp only [AnswerOK] at ha
    rw [WF_iff]
    simp only [finish, sizesOk, sizesOkList, depth, depthList, boolInt_range, ha.1, ha.2.1,
      ha.2.2.1, ha.2.2.2, Bool.and_self, Bool.and_true, decide_eq_true_eq, List.length_cons,
      List.length_nil]
    -- what is left: five elements fit an array, and depth 1 is within the limit
    decide
  | err msg =>
    simp only [AnswerOK] at ha
    simp only [finish]
    apply WF_error_of
    · exact validUtf8_append _ _ (by decide) ha.1
    · exact noCRLF_no_cr_append _ _ (by decide) ha.2

/-- the reply of `process_command`, wherever the oracle value and the limiter's answer come from:
    the three forms below are instances -/
theorem reply_wf {v : Value} {upper : Option (List UInt8)} {f : ThrottleReq → ActorAnswer}
    (hv : WF v) (hu : ∀ u, upper = some u → validUtf8 u = true) (hf : ∀ req, AnswerOK (f req)) :
    WF (match plan v upper with
        | .reply r => r
        | .send req => finish (f req)) := by
  split
  · rename_i r hr; exact plan_reply_wf hv hu hr
  · exact finish_wf (hf _)

/-- the reply with the oracle value and the limiter's answer as parameters of their own: C14 speaks
    of one reply for EVERY `upper` and `a`, where `respond` and `respondS` take them from `upperOf`
    and the actor -/
def replyOf (v : Value) (upper : Option (List UInt8)) (a : ActorAnswer) : Value :=
  match plan v upper with
  | .reply r => r
  | .send _ => finish a

theorem replyOf_wf {v : Value} {upper : Option (List UInt8)} {a : ActorAnswer} (hv : WF v)
    (hu : ∀ u, upper = some u → validUtf8 u = true) (ha : AnswerOK a) :
    WF (replyOf v upper a) :=
  reply_wf (f := fun _ => a) hv hu fun _ => ha

theorem upperFor_valid {upperOf : List UInt8 → List UInt8} {v : Value} (hv : WF v)
    (hup : ∀ s, validUtf8 s = true → validUtf8 (upperOf s) = true) :
    ∀ u, upperFor upperOf v = some u → validUtf8 u = true := by
  intro u hu
  unfold upperFor at hu
  split at hu
  · rename_i c rest
    cases hu
    exact hup c (WF_bulk (WF_array_mem hv _ (by simp))).1
  · cases hu

theorem respond_wf {actor : ThrottleReq → ActorAnswer} {upperOf : List UInt8 → List UInt8}
    {v : Value} (hv : WF v) (hup : ∀ s, validUtf8 s = true → validUtf8 (upperOf s) = true)
    (hact : ∀ req, AnswerOK (actor req)) : WF (respond actor upperOf v) :=
  reply_wf hv (upperFor_valid hv hup) hact

theorem respondS_fst {σ : Type} (actor : σ → ThrottleReq → ActorAnswer × σ)
    (upperOf : List UInt8 → List UInt8) (st : σ) (v : Value) :
    (respondS actor upperOf st v).1 = respond (fun req => (actor st req).1) upperOf v := by
  unfold respondS respond
  split <;> rfl

theorem respondS_wf {σ : Type} {actor : σ → ThrottleReq → ActorAnswer × σ}
    {upperOf : List UInt8 → List UInt8} {st : σ} {v : Value} (hv : WF v)
    (hup : ∀ s, validUtf8 s = true → validUtf8 (upperOf s) = true)
    (hact : ∀ st req, AnswerOK (actor st req).1) : WF (respondS actor upperOf st v).1 := by
  rw [respondS_fst]
  exact respond_wf hv hup (hact st)

/-- What C10Resp specifies a connection by: the replies to the commands `vs`, in order, with the
    limiter state threaded through them, and the state after the last. -/
def replies {σ : Type} (actor : σ → ThrottleReq → ActorAnswer × σ)
    (upperOf : List UInt8 → List UInt8) : σ → List Value → List Value × σ
  | st, [] => ([], st)
  | st, v :: vs =>
    ((respondS actor upperOf st v).1 :: (replies actor upperOf (respondS actor upperOf st v).2 vs).1,
     (replies actor upperOf (respondS actor upperOf st v).2 vs).2)

section
variable {σ : Type} (actor : σ → ThrottleReq → ActorAnswer × σ) (upperOf : List UInt8 → List UInt8)

theorem replies_append : ∀ (st : σ) (xs ys : List Value),
    (replies actor upperOf st (xs ++ ys)).1
      = (replies actor upperOf st xs).1
        ++ (replies actor upperOf (replies actor upperOf st xs).2 ys).1 ∧
    (replies actor upperOf st (xs ++ ys)).2
      = (replies actor upperOf (replies actor upperOf st xs).2 ys).2
  | st, [], ys => by simp [replies]
  | st, x :: xs, ys => by
    have := replies_append (respondS actor upperOf st x).2 xs ys
    simp only [List.cons_append, replies, this.1, this.2, and_self]

theorem replies_length : ∀ (st : σ) (vs : List Value),
    (replies actor upperOf st vs).1.length = vs.length
  | st, [] => rfl
  | st, v :: vs => by simp [replies, replies_length _ vs]

variable {actor upperOf}

theorem replies_wf (hup : ∀ s, validUtf8 s = true → validUtf8 (upperOf s) = true)
    (hact : ∀ st req, AnswerOK (actor st req).1) :
    ∀ (st : σ) (vs : List Value), (∀ v ∈ vs, WF v) →
      ∀ r ∈ (replies actor upperOf st vs).1, WF r
  | st, [], _, r, hr => by simp [replies] at hr
  | st, v :: vs, hvs, r, hr => by
    simp only [replies, List.mem_cons] at hr
    rcases hr with rfl | hr
    · exact respondS_wf (hvs v (by simp)) hup hact
    · exact replies_wf hup hact _ vs (fun w hw => hvs w (by simp [hw])) r hr

end

theorem replies_lift (actor : ThrottleReq → ActorAnswer) (upperOf : List UInt8 → List UInt8) :
    ∀ (vs : List Value),
      (replies (liftActor actor) upperOf () vs).1 = vs.map (respond actor upperOf)
  | [] => rfl
  | v :: vs => by
    simp only [replies, List.map_cons, respondS_fst, replies_lift actor upperOf vs]
    rfl

end TcVerif.Resp
