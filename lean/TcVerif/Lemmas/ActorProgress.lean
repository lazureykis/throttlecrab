/-
  Progress of the actor LTS (no deadlock), its termination measure, and the death of the actor: it
  takes a panic of the limiter (`Total` limiters never die), and it is final (`dead_run`).
-/
import TcVerif.Lemmas.ActorOrder
namespace TcVerif.Actor
variable {L Rq Rs : Type}
variable {M : Sys L Rq Rs} {n : Nat} {l0 : L} {s : State L Rq Rs}

/-- the steps that take a request towards its answer.  `cancel` stays out because a client that is
    sending or waiting may always give up, so with it "some step is enabled" would say nothing;
    `fail` needs a dead actor, and `progress` speaks of a live one. -/
def Label.progress : Label → Prop
  | .call _ | .enq _ | .proc | .actorPanic | .ret _ => True
  | _ => False

theorem actor_enabled (ha : s.alive = true) {x : Id × Rq} {q : List (Id × Rq)}
    (hq : s.queue = x :: q) : ∃ lb s', Step M s lb s' ∧ lb.progress := by
  cases hst : M.lim.step s.lim x.2 with
  | none => exact ⟨.actorPanic, _, .actorPanic ha hq hst, trivial⟩
  | some p => exact ⟨.proc, _, .proc ha hq hst, trivial⟩

theorem progress (h : Reach M n l0 s) (hcap : 1 ≤ M.cap) (ha : s.alive = true)
    {c : Nat} {cl : Cl} (hc : s.clients[c]? = some cl)
    (hbusy : cl.st ≠ .idle ∨ cl.pc < (M.prog c).length) :
    ∃ lb s', Step M s lb s' ∧ lb.progress := by
  cases hq : s.queue with
  | cons x q => exact actor_enabled ha hq
  | nil =>
    obtain ⟨pc, st⟩ := cl
    cases st with
    | idle =>
      exact ⟨.call c, _, .call hc (List.getElem?_eq_getElem (hbusy.resolve_left fun h => h rfl)),
        trivial⟩
    | sending =>
      obtain ⟨r, hm⟩ := (inv_client h hc (List.Subset.refl _)).2.1 nofun
      exact ⟨.enq c, _, .enq hc (call_req h hm) (by rw [hq]; exact hcap) ha, trivial⟩
    | waiting =>
      -- its request is enqueued, so (the queue being empty) processed, and its reply still there
      obtain ⟨r, he⟩ := (inv_client h hc (List.Subset.refl _)).2.2 rfl
      obtain ⟨rs, hp⟩ := ((inv_enq_iff h).mp he).resolve_right (by simp [hq])
      rcases inv_answered h hp with hrs | ⟨e, hm, hf⟩
      · obtain ⟨rs', hrs'⟩ := findReply_isSome_of_mem hrs
        exact ⟨.ret c, _, .ret hc hrs', trivial⟩
      · exact absurd ((inv_tick_le h hm hf.tick).2 hc) (Nat.not_le_of_lt (Cl.clock_lt _))

/-- What client `c` has left to do, weighed so that each of its transitions lowers `measure`: 5 for
    a request not yet called, 4 while it is `sending`, 2 while `waiting` (`enq` takes it from 4 to 2
    and adds a message to the queue, which `measure` counts as 1), 0 once it is left. -/
def clWeight (M : Sys L Rq Rs) (c : Nat) (cl : Cl) : Nat :=
  match cl.st with
  | .idle => 5 * ((M.prog c).length - cl.pc)
  | .sending => 5 * ((M.prog c).length - cl.pc - 1) + 4
  | .waiting => 5 * ((M.prog c).length - cl.pc - 1) + 2

def clientsWeight (M : Sys L Rq Rs) : Nat → List Cl → Nat
  | _, [] => 0
  | k, cl :: rest => clWeight M k cl + clientsWeight M (k + 1) rest

def measure (M : Sys L Rq Rs) (s : State L Rq Rs) : Nat :=
  clientsWeight M 0 s.clients + s.queue.length + (if s.alive then 1 else 0)

theorem clientsWeight_set (M : Sys L Rq Rs) (k c : Nat) (cls : List Cl) (cl cl' : Cl)
    (hc : cls[c]? = some cl) :
    clientsWeight M k (cls.set c cl') + clWeight M (k + c) cl
      = clientsWeight M k cls + clWeight M (k + c) cl' := by
  induction cls generalizing k c with
  | nil => simp at hc
  | cons x xs ih =>
    cases c with
    | zero =>
      cases hc
      simp only [List.set_cons_zero, clientsWeight, Nat.add_zero]
      ac_rfl
    | succ c0 =>
      have := ih (k + 1) c0 hc
      rw [Nat.add_right_comm, Nat.add_assoc] at this
      simp only [List.set_cons_succ, clientsWeight]
      rw [Nat.add_assoc, this, Nat.add_assoc]

/-- a client's transition lowers the measure if its weight drops by more than the queue grows -/
theorem measure_lt_of_client {s s' : State L Rq Rs} {c : Nat} {cl cl' : Cl}
    (hc : s.clients[c]? = some cl) (hcl : s'.clients = s.clients.set c cl') (ha : s'.alive = s.alive)
    (hd : clWeight M c cl' + s'.queue.length < clWeight M c cl + s.queue.length) :
    measure M s' < measure M s := by
  have := clientsWeight_set M 0 c s.clients cl cl' hc
  rw [Nat.zero_add] at this
  simp only [measure, hcl, ha]
  omega

theorem measure_decreases {s s' : State L Rq Rs} {lb : Label} (hst : Step M s lb s') :
    measure M s' < measure M s := by
  cases hst
  case call c pc r hc hr =>
    have hlt := (List.getElem?_eq_some_iff.mp hr).1
    exact measure_lt_of_client hc rfl rfl (by simp only [clWeight]; omega)
  case enq c pc r hc hr hcap ha =>
    exact measure_lt_of_client hc rfl rfl
      (by simp only [clWeight, List.length_append, List.length_singleton]; omega)
  case proc id r q l' rs ha hq hs' =>
    simp only [measure, hq, List.length_cons]
    omega
  case actorPanic id r q ha hq hs' =>
    simp only [measure, ha]
    simp
  case ret c pc _ hc _ | cancelSend c pc hc | cancelWait c pc hc | failSend c pc hc _ |
      failWait c pc hc _ _ =>
    exact measure_lt_of_client hc rfl rfl (by simp only [clWeight]; omega)

theorem run_length_le_measure {s s' : State L Rq Rs} {lbs : List Label} (hr : Run M s lbs s') :
    lbs.length + measure M s' ≤ measure M s := by
  induction hr with
  | nil => simp
  | cons h1 _ ih =>
    have := measure_decreases h1
    simp only [List.length_cons]
    omega

/-- the library call never panics (the real code's C08) -/
def Total (lim : Limiter L Rq Rs) : Prop := ∀ l r, lim.step l r ≠ none

theorem inv_alive_of_total (htot : Total M.lim) (h : Reach M n l0 s) : s.alive = true := by
  induction h with
  | init => rfl
  | step hs hst ih =>
    cases hst
    case actorPanic id r q ha hq hs' => exact absurd hs' (htot _ _)
    all_goals exact ih

theorem dead_run {s s' : State L Rq Rs} {lbs : List Label} (hd : s.alive = false)
    (hr : Run M s lbs s') :
    s'.alive = false ∧ procLog s'.log = procLog s.log ∧ s'.lim = s.lim ∧
      ∃ ext, s'.log = s.log ++ ext := by
  induction hr with
  | nil => exact ⟨hd, rfl, rfl, [], (List.append_nil _).symm⟩
  | @cons s0 _ _ _ _ hst _ ih =>
    cases hst
    case enq | proc | actorPanic => exact absurd (hd.symm.trans ‹s0.alive = true›) (by decide)
    all_goals
      obtain ⟨i1, i2, i3, ext, i4⟩ := ih hd
      exact ⟨i1, by simpa [procLog] using i2, i3, _, i4.trans (List.append_assoc ..)⟩

end TcVerif.Actor
