/-
  The GCRA cell simulates the ideal token bucket (the heart of C02 and C03): the bucket's level
  is the cell's head-room, so `cell_step` turns into statements about the bucket.
-/
import TcVerif.Lemmas.CellStep
import TcVerif.Model.Bucket
namespace TcVerif

def Bucket.wf (BE : Int) : Option Bucket → Prop
  | none => True
  | some b => 0 ≤ b.lvl ∧ b.lvl ≤ BE

def Bucket.tsOf : Option Bucket → Int → Int
  | none, d => d
  | some b, _ => b.ts

theorem Bucket.refill_some (BE : Int) (bk : Bucket) (t : Int) :
    Bucket.refill BE (some bk) t = min BE (bk.lvl + (t - bk.ts)) := rfl

theorem Bucket.refill_le (BE : Int) (b : Option Bucket) (t : Int) : Bucket.refill BE b t ≤ BE := by
  cases b with
  | none => exact Int.le_refl _
  | some bk => exact Bucket.refill_some .. ▸ Int.min_le_left _ _

theorem Bucket.refill_nonneg {BE t : Int} {b : Option Bucket} (hBE : 0 ≤ BE) (hwf : Bucket.wf BE b)
    (hts : ∀ bk, b = some bk → bk.ts ≤ t) : 0 ≤ Bucket.refill BE b t := by
  cases b with
  | none => exact hBE
  | some bk =>
    exact Bucket.refill_some .. ▸
      Int.le_min.mpr ⟨hBE, Int.add_nonneg hwf.1 (Int.sub_nonneg_of_le (hts bk rfl))⟩

/-- the level `Bucket.step` leaves (`Bucket.step_eq`) -/
def lvlAfter (B E : Int) (b : Option Bucket) (now q : Int) : Int :=
  if q * E ≤ Bucket.refill (B * E) b now then Bucket.refill (B * E) b now - q * E
  else Bucket.refill (B * E) b now

theorem Bucket.step_eq (B E : Int) (b : Option Bucket) (t q : Int) :
    Bucket.step B E b t q =
      (some ⟨lvlAfter B E b t q, t⟩, decide (q * E ≤ Bucket.refill (B * E) b t), lvlAfter B E b t q / E) := by
  simp only [Bucket.step, lvlAfter, decide_eq_true_eq]

theorem lvlAfter_unchanged {B E t q : Int} {b : Option Bucket} (hq : 0 ≤ q)
    (h : ¬ (q * E ≤ Bucket.refill (B * E) b t ∧ 0 < q)) :
    lvlAfter B E b t q = Bucket.refill (B * E) b t := by
  unfold lvlAfter
  split
  · have : q = 0 := by omega
    rw [this]; omega
  · rfl

theorem lvlAfter_wf {B E t q : Int} {b : Option Bucket} (hBE : 0 ≤ B * E) (hq : 0 ≤ q * E)
    (hwf : Bucket.wf (B * E) b) (hts : ∀ bk, b = some bk → bk.ts ≤ t) :
    Bucket.wf (B * E) (some ⟨lvlAfter B E b t q, t⟩) := by
  have := Bucket.refill_nonneg hBE hwf hts
  have := Bucket.refill_le (B * E) b t
  show 0 ≤ lvlAfter B E b t q ∧ lvlAfter B E b t q ≤ B * E
  unfold lvlAfter
  split <;> omega

/-- The cell's half of `Rel`: `CellInv` with the TAT bounded by `t + τ`, `t` the time of the last
    request (a write at `t` stores at most that), in place of the constant `V_MAX`.  While
    `t ≤ T_MAX` it gives `CellInv` (`Rel.cellInv`), which is all `cell_step` asks for.  Inside `Rel`
    the upper bound also follows from the bucket's half (`0 ≤ lvl ≤ ts + τ - v` and `ts ≤ t`); it
    stands here so that `Rel.cellInv` needs this half alone. -/
def CellOK (pad τ t : Int) : Cell → Prop
  | none => True
  | some (v, e) => e = v + pad ∧ -TWO60 ≤ v ∧ v ≤ t + τ

/-- the level `lvl` of a bucket stamped `ts` is the cell's head-room at `ts` (`lvlOK_headroom`) -/
def LvlOK (be τ ts lvl : Int) : Cell → Prop
  | none => lvl = be
  | some (v, _) => lvl = min be (ts + τ - v)

/-- relation between a key's cell and its ideal bucket; `t` = time of the last request -/
def Rel (E B : Int) (c : Cell) (b : Option Bucket) (t : Int) : Prop :=
  CellOK (max (B * E - E) E) (B * E - E) t c ∧
  (match b with
   | none => c = none
   | some bk => bk.ts ≤ t ∧ 0 ≤ bk.lvl ∧ bk.lvl ≤ B * E ∧ LvlOK (B * E) (B * E - E) bk.ts bk.lvl c)

theorem CellOK.mono {pad τ t t' : Int} {c : Cell} (h : CellOK pad τ t c) (ht : t ≤ t') : CellOK pad τ t' c := by
  cases c with
  | none => trivial
  | some p =>
    obtain ⟨hexp, hlo, hhi⟩ := h
    exact ⟨hexp, hlo, Int.le_trans hhi (Int.add_le_add_right ht _)⟩

theorem lvlOK_headroom (E B : Int) (c : Cell) (x : Int) : LvlOK (B * E) (B * E - E) x (headroom E B c x) c := by
  cases c with
  | none => exact headroom_none E B x
  | some p => rfl

theorem rel_fresh (E B t : Int) : Rel E B none none t := ⟨trivial, rfl⟩

/-- `ReqOK`, and the timestamp not before `t`, the time of the last request -/
structure StepD (E B : Int) (t : Int) (r : Req) : Prop where
  dom : DomD E B
  burst : r.burst = B
  valid : r.valid
  mono : t ≤ r.now
  now0 : 0 ≤ r.now
  now1 : r.now ≤ T_MAX

theorem StepD.reqOK {E B t : Int} {r : Req} (h : StepD E B t r) : ReqOK E B r :=
  ⟨h.dom, h.burst, h.valid, h.now0, h.now1⟩

theorem Rel.cellInv {E B t : Int} {c : Cell} {b : Option Bucket} (h : Rel E B c b t) (hD : DomD E B)
    (ht : t ≤ T_MAX) : CellInv E B c := by
  cases c with
  | none => trivial
  | some p =>
    obtain ⟨⟨hexp, hlo, hhi⟩, -⟩ := h
    have hBE := hD.hBE; have hE := hD.hE
    exact ⟨hexp, hlo, by unfold V_MAX T_MAX TWO60 at *; omega⟩

theorem Rel.wf {E B t : Int} {c : Cell} {b : Option Bucket} (h : Rel E B c b t) :
    Bucket.wf (B * E) b ∧ ∀ bk, b = some bk → bk.ts ≤ t := by
  cases b with
  | none => exact ⟨trivial, fun _ h => by cases h⟩
  | some bk =>
    obtain ⟨-, hts, hl0, hl1, -⟩ := h
    exact ⟨⟨hl0, hl1⟩, fun _ h' => by cases h'; exact hts⟩

theorem Rel.refill_eq_headroom {E B t now : Int} {c : Cell} {b : Option Bucket} (hrel : Rel E B c b t)
    (ht : t ≤ now) : Bucket.refill (B * E) b now = headroom E B c now := by
  obtain ⟨-, hb⟩ := hrel
  cases b with
  | none => rw [hb, headroom_none]; rfl
  | some bk =>
    obtain ⟨h1, -, -, h4⟩ := hb
    have hd : B * E ≤ B * E + (now - bk.ts) :=
      Int.le_add_of_nonneg_right (Int.sub_nonneg_of_le (Int.le_trans h1 ht))
    cases c with
    | none => simp only [LvlOK] at h4; rw [headroom_none, Bucket.refill_some, h4]; exact Int.min_eq_left hd
    | some p =>
      simp only [LvlOK] at h4
      -- refilling for `now - ts ≥ 0` shifts both arms of the `min`; the cap absorbs its own shift
      rw [Bucket.refill_some, h4, ← Int.min_add_right, ← Int.min_assoc, Int.min_eq_left hd]
      exact congrArg (min _) (by simp only [Cell.tatOr]; omega)

/-- `cell_step` at the ideal bucket's levels (`H` the refilled level, `L = lvlAfter`), field by field in the
    form the theorems about single responses (C03, C07) take it: `remaining` as the bucket's floor
    division, and of the new state only whether it was written and with what expiry -/
structure StepFacts (E B : Int) (c : Cell) (b : Option Bucket) (r : Req) : Prop where
  ok : (rateLimitE Cell.ops c E r).2.1.isOk = true
  limit : (rateLimitE Cell.ops c E r).2.1.limit = B
  allowed : (rateLimitE Cell.ops c E r).2.1.allowed = decide (r.qty * E ≤ Bucket.refill (B * E) b r.now)
  remaining : (rateLimitE Cell.ops c E r).2.1.remaining = lvlAfter B E b r.now r.qty / E
  retry_zero : (rateLimitE Cell.ops c E r).2.1.allowed = true → (rateLimitE Cell.ops c E r).2.1.retryNs = 0
  retry_pos : (rateLimitE Cell.ops c E r).2.1.allowed = false → 0 < (rateLimitE Cell.ops c E r).2.1.retryNs
  retry_exact : (rateLimitE Cell.ops c E r).2.1.allowed = false → r.qty ≤ B →
      (rateLimitE Cell.ops c E r).2.1.retryNs = r.qty * E - Bucket.refill (B * E) b r.now
  /-- reset_after = time to regain the full burst + (pad - E) -/
  reset : (rateLimitE Cell.ops c E r).2.1.resetNs =
      B * E - lvlAfter B E b r.now r.qty + (max (B * E - E) E - E)
  unchanged : ¬ (r.qty * E ≤ Bucket.refill (B * E) b r.now ∧ 0 < r.qty) → (rateLimitE Cell.ops c E r).1 = c
  written : (r.qty * E ≤ Bucket.refill (B * E) b r.now ∧ 0 < r.qty) →
      ∃ v, (rateLimitE Cell.ops c E r).1 = some (v, r.now + (rateLimitE Cell.ops c E r).2.1.resetNs)
  trace : (rateLimitE Cell.ops c E r).2.2 =
      [StoreOp.get r.key r.now (Cell.ops.get c r.key r.now)] ++
      (if r.qty * E ≤ Bucket.refill (B * E) b r.now ∧ 0 < r.qty then
        [match Cell.ops.get c r.key r.now with
          | some old => StoreOp.cas r.key old (decision E r (Cell.ops.get c r.key r.now)).newTat
              (rateLimitE Cell.ops c E r).2.1.resetNs r.now true
          | none => StoreOp.setnx r.key (decision E r (Cell.ops.get c r.key r.now)).newTat
              (rateLimitE Cell.ops c E r).2.1.resetNs r.now true]
       else [])

theorem StepFacts.ttl_of_mem {E B : Int} {c : Cell} {b : Option Bucket} {r : Req} (f : StepFacts E B c b r)
    {op : StoreOp} (hop : op ∈ (rateLimitE Cell.ops c E r).2.2) {ttl : Int} (httl : op.ttl? = some ttl) :
    (r.qty * E ≤ Bucket.refill (B * E) b r.now ∧ 0 < r.qty) ∧
    ttl = (rateLimitE Cell.ops c E r).2.1.resetNs := by
  rw [f.trace] at hop
  simp only [List.mem_append, List.mem_singleton] at hop
  rcases hop with hop | hop
  · rw [hop] at httl; cases httl
  · split at hop
    · rw [List.mem_singleton.mp hop] at httl
      refine ⟨by assumption, ?_⟩
      split at httl <;> exact (Option.some.inj httl).symm
    · cases hop

theorem Rel.lvlAfter_range {E B t : Int} {c : Cell} {b : Option Bucket} {r : Req} (hrel : Rel E B c b t)
    (h : StepD E B t r) : 0 ≤ lvlAfter B E b r.now r.qty ∧ lvlAfter B E b r.now r.qty ≤ B * E := by
  have hE := h.dom.hE; have hEle := h.dom.E_le
  exact lvlAfter_wf (by omega) (Int.mul_nonneg h.valid.1 (by omega)) hrel.wf.1
    (fun bk hb => Int.le_trans (hrel.wf.2 bk hb) h.mono)

/-- for a non-negative level, Rust's truncating division is the bucket's floor -/
theorem tdiv_level {x E : Int} (hx : 0 ≤ x) (hE : 1 ≤ E) : max (Int.tdiv x E) 0 = x / E := by
  rw [Int.tdiv_eq_ediv_of_nonneg hx]
  exact Int.max_eq_left (Int.ediv_nonneg hx (by omega))

/-- one step of the simulation: the cell answers as the bucket, and the states stay related -/
theorem rel_step {E B : Int} (c : Cell) (b : Option Bucket) (t : Int) (r : Req)
    (h : StepD E B t r) (hrel : Rel E B c b t) :
    StepFacts E B c b r ∧
    Rel E B (rateLimitE Cell.ops c E r).1 (some ⟨lvlAfter B E b r.now r.qty, r.now⟩) r.now := by
  have hH := hrel.refill_eq_headroom h.mono
  obtain ⟨l0, l1⟩ := hrel.lvlAfter_range h
  -- `cell_step` at the ideal bucket's levels: the head-room is the refilled level, `lvlAfter` what is left
  obtain ⟨ρ, hρ0, hρ1, g⟩ : ∃ ρ, _ ∧ _ ∧
      _ = cellAnswer E B c r (Bucket.refill (B * E) b r.now) (lvlAfter B E b r.now r.qty) ρ :=
    cell_step c r h.reqOK (hrel.cellInv h.dom (Int.le_trans h.mono h.now1)) hH.symm
  refine ⟨?_, ?_⟩
  · constructor <;> rw [g]
    case ok | limit | allowed | reset | trace => rfl
    case remaining => exact tdiv_level l0 h.dom.hE
    case retry_zero => exact fun ha => hρ0 (of_decide_eq_true ha)
    case retry_pos => exact fun ha => (hρ1 (of_decide_eq_false ha)).1
    case retry_exact => exact fun ha => (hρ1 (of_decide_eq_false ha)).2
    case unchanged => exact fun hno => if_neg hno
    case written => exact fun hyes => ⟨_, (if_pos hyes).trans (by congr 2; show _ = _ + (_ - _ + _); omega)⟩
  · have hn0 := h.now0; have hBE := h.dom.hBE; have hEle := h.dom.E_le
    rw [g]
    show Rel E B (if _ then _ else c) _ _
    split
    · -- written: the new TAT is `now + τ - level`
      refine ⟨⟨rfl, by unfold TWO60 at *; omega, by omega⟩, Int.le_refl _, l0, l1, ?_⟩
      simp only [LvlOK]
      rw [Int.sub_sub_self]
      exact (Int.min_eq_right l1).symm
    · rename_i hw
      rw [lvlAfter_unchanged h.valid.1 hw, hH] at l0 l1 ⊢
      exact ⟨CellOK.mono hrel.1 h.mono, Int.le_refl _, l0, l1, lvlOK_headroom E B c r.now⟩

end TcVerif
