/-
  One request on the cell of one key, for ANY state the cell may be in and any timestamp:
  the cell answers as a token bucket whose level is its head-room `now + τ - tat`
  (`cell_step`).  The simulation of the ideal bucket and the facts for arbitrary timestamp order
  are both read off this one theorem.
-/
import TcVerif.Lemmas.Arith
import TcVerif.Lemmas.Cell
namespace TcVerif

/-- on a cell the write that follows a `get` at the same instant succeeds -/
theorem rateLimitE_cell (c : Cell) (E : Int) (r : Req) (hv : r.valid) :
    rateLimitE Cell.ops c E r =
      (if (decision E r (Cell.ops.get c r.key r.now)).write
         then some ((decision E r (Cell.ops.get c r.key r.now)).newTat,
                    r.now + (decision E r (Cell.ops.get c r.key r.now)).ttl)
         else c,
       (decision E r (Cell.ops.get c r.key r.now)).outcome,
       passOps E r (Cell.ops.get c r.key r.now)) := by
  rw [rateLimitE_one_pass Cell.ops c E r hv (fun _ => by rw [Cell.put_eq]; exact decide_eq_true rfl),
    Cell.put_eq, if_pos rfl]

/-- one request of the fixed-limits key inside D; no ordering assumption -/
structure ReqOK (E B : Int) (r : Req) : Prop where
  dom : DomD E B
  burst : r.burst = B
  valid : r.valid
  now0 : 0 ≤ r.now
  now1 : r.now ≤ T_MAX

/-- invariant of a fixed-limits key's stored entry: expiry = TAT + pad, and the TAT within what a request of
    D stamped `now` writes, from `now - E ≥ -2^60` to `now + τ ≤ V_MAX`.  It names no time, so it is kept
    whatever the order of the timestamps (`cell_step_nonmono`); `CellOK` is its form relative to the
    time of the last request. -/
def CellInv (E B : Int) : Cell → Prop
  | none => True
  | some (v, e) => e = v + max (B * E - E) E ∧ -TWO60 ≤ v ∧ v ≤ V_MAX

def Cell.tatOr (d : Int) : Cell → Int
  | none => d
  | some (v, _) => v

/-- head-room a cell offers at time `x`, the credit a request stamped `x` can spend: `x + τ - tat`
    capped at the burst, an absent TAT counting as `x - E` -/
def headroom (E B : Int) (c : Cell) (x : Int) : Int :=
  min (B * E) (x + (B * E - E) - Cell.tatOr (x - E) c)

theorem headroom_none (E B x : Int) : headroom E B none x = B * E :=
  Int.min_eq_left (by simp only [Cell.tatOr]; omega)

/-- A request stamped `x` meets this head-room whether or not the entry has expired: the entry
    outlives its TAT by `pad ≥ E`, and a TAT that far in the past counts for no more than `x - E` anyway. -/
theorem headroom_get {E B : Int} {c : Cell} (hinv : CellInv E B c) (k : Key) (x : Int) :
    x + (B * E - E) - gTat E x (Cell.ops.get c k x) = headroom E B c x := by
  cases c with
  | none => rw [headroom_none]; simp only [Cell.get_none, gTat, effTat]; omega
  | some p =>
    obtain ⟨v, e⟩ := p
    rw [Cell.get_some, hinv.1]
    simp only [headroom, Cell.tatOr]
    split <;> simp only [gTat, effTat]
    · -- live: `x + τ` less a `max` is the `min` of the differences, and `x + τ - (x - E) = B * E`
      rw [← Int.sub_min_sub_left, Int.min_comm]
      exact congrArg (min · _) (by omega)
    · omega

theorem headroom_mono (E B : Int) (c : Cell) (t T : Int) (h : t ≤ T) :
    headroom E B c t ≤ headroom E B c T := by
  -- the cap stays, the other arm of the `min` grows with the time
  refine Int.le_min.mpr ⟨Int.min_le_left _ _, Int.le_trans (Int.min_le_right _ _) ?_⟩
  cases c with
  | none => simp only [Cell.tatOr]; omega
  | some p => exact Int.sub_le_sub_right (Int.add_le_add_right h _) _

theorem CellInv.get_bounds {E B : Int} {c : Cell} (hinv : CellInv E B c) (k : Key) (x : Int) :
    ∀ v, Cell.ops.get c k x = some v → -TWO62 ≤ v ∧ v ≤ V_MAX := by
  intro v hv
  cases c with
  | none => cases hv
  | some p =>
    obtain ⟨v', e⟩ := p
    obtain ⟨_, h0, h1⟩ := hinv
    rw [Cell.get_some] at hv
    split at hv
    · cases hv; exact ⟨Int.le_trans (by decide) h0, h1⟩
    · cases hv

/-- What a token bucket answers that holds `H` when the request arrives and `L` after it, as the cell
    gives it: state, response, trace.  `ρ` is the retry time, which the level determines only for
    `qty ≤ B` (beyond, the product `qty * E` may saturate); the trace names the new TAT as `decision`
    computes it, which is how `StepFacts.trace` states it. -/
def cellAnswer (E B : Int) (c : Cell) (r : Req) (H L ρ : Int) : Cell × Outcome × List StoreOp :=
  let tv := Cell.ops.get c r.key r.now
  let reset := B * E - L + (max (B * E - E) E - E)
  (if r.qty * E ≤ H ∧ 0 < r.qty then
      some (r.now + (B * E - E) - L, r.now + (B * E - E) - L + max (B * E - E) E)
    else c,
   .ok (decide (r.qty * E ≤ H)) B (max (Int.tdiv L E) 0) reset ρ,
   StoreOp.get r.key r.now tv ::
     if r.qty * E ≤ H ∧ 0 < r.qty then [StoreOp.write r.key tv (decision E r tv).newTat reset r.now true] else [])

/-- `cellAnswer` at `H` the head-room on arrival, `L` = `H` less the cost `qty * E` if that fits, `ρ` the retry time -/
theorem cell_step {E B H : Int} (c : Cell) (r : Req) (h : ReqOK E B r) (hinv : CellInv E B c)
    (hH : headroom E B c r.now = H) :
    ∃ ρ, (r.qty * E ≤ H → ρ = 0) ∧ (¬ r.qty * E ≤ H → 0 < ρ ∧ (r.qty ≤ B → ρ = r.qty * E - H)) ∧
      rateLimitE Cell.ops c E r = cellAnswer E B c r H (if r.qty * E ≤ H then H - r.qty * E else H) ρ := by
  have hd : ReqD E B r (Cell.ops.get c r.key r.now) :=
    ⟨h.dom, h.burst, h.valid.1, h.now0, h.now1, hinv.get_bounds r.key r.now⟩
  have hle : H ≤ B * E := hH ▸ Int.min_le_left _ _
  have hE := h.dom.hE; have hBE := h.dom.hBE
  have hsmall : r.qty * E ≤ B * E → r.qty * E ≤ TWO61 := fun hx =>
    Int.le_trans hx (Int.le_trans hBE (by decide))
  rw [rateLimitE_cell c E r h.valid]
  unfold cellAnswer passOps
  dsimp only
  rw [decision_eq]
  dsimp only
  -- from here on the value read is an atom `tv`, and `omega` does the arithmetic
  replace hH := (headroom_get hinv r.key r.now).trans hH
  generalize Cell.ops.get c r.key r.now = tv at *
  have hall : dAllowed E r tv = decide (r.qty * E ≤ H) := by
    rw [Bool.eq_iff_iff, hd.allowed_iff, decide_eq_true_iff]; omega
  have hcur : dCur E r tv = r.now + (B * E - E) - (if r.qty * E ≤ H then H - r.qty * E else H) := by
    rw [hd.cur_eq, hall]; simp only [decide_eq_true_eq]; split <;> omega
  have hreset : dReset E r tv = B * E - (if r.qty * E ≤ H then H - r.qty * E else H) + (max (B * E - E) E - E) := by
    have := hd.cur_ge; have := hd.pad_ge
    rw [hd.reset_eq, Int.max_eq_left (by omega), hd.pad_eq, hcur]; omega
  have hwrite : (decide (r.qty * E ≤ H) && decide (r.qty > 0)) = true ↔ r.qty * E ≤ H ∧ 0 < r.qty := by
    simp only [Bool.and_eq_true, decide_eq_true_eq, gt_iff_lt]
  refine ⟨dRetry E r tv, fun hx => dRetry_eq_zero_iff.mpr (hall.trans (decide_eq_true hx)),
    fun hx => ⟨dRetry_pos (hall.trans (decide_eq_false hx)), fun hqb => ?_⟩, ?_⟩
  · rw [hd.retry_eq (hall.trans (decide_eq_false hx))
      (hsmall (Int.mul_le_mul_of_nonneg_right hqb (Int.le_of_lt hE)))]
    omega
  · rw [hd.burst, hd.remaining_eq, hcur, Int.sub_sub_self, hreset, hall]
    by_cases hw : r.qty * E ≤ H ∧ 0 < r.qty
    · -- written: the new TAT and the lifetime are exact, the cost being at most `B * E`
      have hp := hsmall (Int.le_trans hw.1 hle)
      have hnew : gTat E r.now tv + r.qty * E = r.now + (B * E - E) - (H - r.qty * E) := by omega
      have hexp : r.now + (gTat E r.now tv + r.qty * E - r.now + max (B * E - E) E) =
          gTat E r.now tv + r.qty * E + max (B * E - E) E := by omega
      have httl : gTat E r.now tv + r.qty * E - r.now + max (B * E - E) E =
          B * E - (H - r.qty * E) + (max (B * E - E) E - E) := by omega
      rw [if_pos (hwrite.mpr hw), if_pos (hwrite.mpr hw), if_pos hw, if_pos hw, if_pos hw.1,
        hd.new_eq hp, hd.ttl_eq hp, hd.pad_eq, hexp, httl, hnew]
    · rw [if_neg (mt hwrite.mp hw), if_neg (mt hwrite.mp hw), if_neg hw, if_neg hw]

end TcVerif
