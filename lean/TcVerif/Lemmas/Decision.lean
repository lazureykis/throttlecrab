/-
  What the library chain starts from.  The constants of the domain D in which the properties are
  stated (`TWO60` … `V_MAX`), and `T2200`, the bound of C08's wider domain (every i64 input, timestamps
  up to the year 2200).  Ranges of sums and differences (`range_*`).  The clamp to i64 that
  every saturating operation ends in: where it is the identity, and how its value compares with a
  bound where it is not (`clamp_*`, `satMul_nonneg`).  `decision` as an equation between named
  intermediate values, one definition per `let` of the model (`decision_eq`), and what holds of
  those values for every input.
-/
import TcVerif.Model.Gcra
namespace TcVerif

/-- 2^60 ns, about 36.5 years: the bound D puts on `burst × interval` (`DomD`).  A request of D stamped
    `now` writes a TAT between `now - E` and `now + τ`, hence between `-2^60` and `T_MAX + 2^60`. -/
def TWO60 : Int := 1152921504606846976
/-- 2^61: a cost `qty × interval` up to which `tat + cost` is exact on D, since `V_MAX + 2^61 < 2^63`;
    an admitted cost is at most `burst × interval ≤ 2^60` -/
def TWO61 : Int := 2305843009213693952
/-- 2^62: how far below zero `ReqD.stored` lets a stored value lie.  No proof uses that bound (`effTat`
    replaces whatever lies below `now - E`); `-2^60` holds of what D writes (`CellInv`). -/
def TWO62 : Int := 4611686018427387904
/-- 2100-01-01T00:00:00Z in nanoseconds -/
def T_MAX : Int := 4102444800000000000
/-- bound on any stored TAT on D: `T_MAX + 2^60` -/
def V_MAX : Int := 5255366304606846976
/-- 2200-01-01T00:00:00Z in nanoseconds since the epoch -/
def T2200 : Int := 7258118400000000000

def Outcome.limit : Outcome → Int | .ok _ l _ _ _ => l | _ => 0
def Outcome.remaining : Outcome → Int | .ok _ _ r _ _ => r | _ => 0
def Outcome.resetNs : Outcome → Int | .ok _ _ _ r _ => r | _ => 0
def Outcome.retryNs : Outcome → Int | .ok _ _ _ _ r => r | _ => 0
def Outcome.isOk : Outcome → Bool | .ok .. => true | _ => false

/-! Interval arithmetic.  Where every operand of `decision` has a range between numerals, so has each
intermediate value (`range_add`, `range_sub`); that such a range lies within i64, where the clamp is
the identity (`clamp_id`), is then a comparison of numerals, which `decide` evaluates.  (An `omega`
call for each clamp, in a context that holds all the bounds, costs ten times as much to check.) -/

theorem range_add {a b la ua lb ub : Int} (ha : la ≤ a ∧ a ≤ ua) (hb : lb ≤ b ∧ b ≤ ub) :
    la + lb ≤ a + b ∧ a + b ≤ ua + ub :=
  ⟨Int.add_le_add ha.1 hb.1, Int.add_le_add ha.2 hb.2⟩

theorem range_sub {a b la ua lb ub : Int} (ha : la ≤ a ∧ a ≤ ua) (hb : lb ≤ b ∧ b ≤ ub) :
    la - ub ≤ a - b ∧ a - b ≤ ua - lb :=
  ⟨Int.sub_le_sub ha.1 hb.2, Int.sub_le_sub ha.2 hb.1⟩

theorem range_mono {x l u l' u' : Int} (h : l ≤ x ∧ x ≤ u) (hw : l' ≤ l ∧ u ≤ u' := by decide) :
    l' ≤ x ∧ x ≤ u' :=
  ⟨Int.le_trans hw.1 h.1, Int.le_trans h.2 hw.2⟩

theorem clamp_id {x l u : Int} (h : l ≤ x ∧ x ≤ u) (hw : I64_MIN ≤ l ∧ u ≤ I64_MAX := by decide) :
    clampI64 x = x := by
  unfold clampI64
  rw [if_neg (Int.not_lt.mpr (Int.le_trans h.2 hw.2)), if_neg (Int.not_lt.mpr (Int.le_trans hw.1 h.1))]

theorem clamp_hi {x : Int} (h : x > I64_MAX) : clampI64 x = I64_MAX := if_pos h

theorem clamp_range (x : Int) : inI64 (clampI64 x) := by
  unfold inI64 clampI64 I64_MAX I64_MIN
  omega

theorem clamp_ge_of_ge {x y : Int} (hy : y ≤ I64_MAX) (h : y ≤ x) : y ≤ clampI64 x := by
  unfold clampI64 I64_MAX I64_MIN at *
  omega

theorem clamp_le_of_le {x y l : Int} (hy : l ≤ y) (h : x ≤ y) (hw : I64_MIN ≤ l := by decide) :
    clampI64 x ≤ y := by
  unfold clampI64 I64_MAX I64_MIN at *
  omega

/-- `u < I64_MAX` strictly: at `y = I64_MAX` the left side holds of every `x`, the right side does not -/
theorem clamp_le_iff {x y l u : Int} (hy : l ≤ y ∧ y ≤ u) (hw : I64_MIN ≤ l ∧ u < I64_MAX := by decide) :
    clampI64 x ≤ y ↔ x ≤ y := by
  unfold clampI64 I64_MAX I64_MIN at *
  omega

theorem max_clamp_range (x : Int) : 0 ≤ max (clampI64 x) 0 ∧ max (clampI64 x) 0 ≤ I64_MAX := by
  exact ⟨Int.le_max_right _ _, Int.max_le.mpr ⟨(clamp_range x).2, by decide⟩⟩

theorem satMul_nonneg {a b : Int} (ha : 0 ≤ a) (hb : 0 ≤ b) :
    0 ≤ satMul a b ∧ satMul a b ≤ I64_MAX ∧ satMul a b ≤ a * b ∧
    (satMul a b = a * b ∨ satMul a b = I64_MAX) := by
  have := Int.mul_nonneg ha hb
  unfold satMul clampI64 I64_MAX I64_MIN
  omega

theorem eNs_range {E : Int} (h0 : 0 ≤ E) : 0 ≤ eNs E ∧ eNs E ≤ I64_MAX := by
  unfold eNs I64_MAX; omega

theorem le_effTat (m : Int) (tv : Option Int) : m ≤ effTat m tv := by
  cases tv with
  | none => exact Int.le_refl m
  | some v => exact Int.le_max_right v m

theorem effTat_le {m u : Int} {tv : Option Int} (hm : m ≤ u) (hv : ∀ v, tv = some v → v ≤ u) :
    effTat m tv ≤ u := by
  cases tv with
  | none => exact hm
  | some v => exact Int.max_le.mpr ⟨hv v rfl, hm⟩

def dMinTat (E : Int) (r : Req) : Int := satSub r.now (eNs E)
def dTat (E : Int) (r : Req) (tv : Option Int) : Int := effTat (dMinTat E r) tv
def dInc (E : Int) (r : Req) : Int := satMul (eNs E) r.qty
def dNew (E : Int) (r : Req) (tv : Option Int) : Int := satAdd (dTat E r tv) (dInc E r)
def dAllowAt (E : Int) (r : Req) (tv : Option Int) : Int := satSub (dNew E r tv) (tauNs E r.burst)
def dAllowed (E : Int) (r : Req) (tv : Option Int) : Bool := decide (r.now ≥ dAllowAt E r tv)
def dPad (E : Int) (r : Req) : Int := max (tauNs E r.burst) (eNs E)
def dTtl (E : Int) (r : Req) (tv : Option Int) : Int :=
  max (satAdd (satSub (dNew E r tv) r.now) (dPad E r)) 0
def dCur (E : Int) (r : Req) (tv : Option Int) : Int :=
  if dAllowed E r tv then dNew E r tv else dTat E r tv
def dRoom (E : Int) (r : Req) (tv : Option Int) : Int :=
  satSub (satAdd r.now (tauNs E r.burst)) (dCur E r tv)
def dRemaining (E : Int) (r : Req) (tv : Option Int) : Int :=
  if eNs E > 0 then max (Int.tdiv (dRoom E r tv) (eNs E)) 0 else 0
def dReset (E : Int) (r : Req) (tv : Option Int) : Int :=
  max (satAdd (satSub (dCur E r tv) r.now) (dPad E r)) 0
def dRetry (E : Int) (r : Req) (tv : Option Int) : Int :=
  if dAllowed E r tv then 0 else max (satSub (dAllowAt E r tv) r.now) 0

theorem decision_eq (E : Int) (r : Req) (tv : Option Int) :
    decision E r tv =
      { allowed := dAllowed E r tv,
        write := dAllowed E r tv && decide (r.qty > 0),
        tat := dTat E r tv,
        newTat := dNew E r tv,
        ttl := dTtl E r tv,
        outcome := .ok (dAllowed E r tv) r.burst (dRemaining E r tv) (dReset E r tv) (dRetry E r tv) } := rfl

theorem decision_write_iff (E : Int) (r : Req) (tv : Option Int) :
    (decision E r tv).write = true ↔ ((decision E r tv).allowed = true ∧ r.qty > 0) := by
  simp [decision]

theorem decision_outcome_allowed (E : Int) (r : Req) (tv : Option Int) :
    (decision E r tv).outcome.allowed = (decision E r tv).allowed := by
  simp [decision, Outcome.allowed]

theorem dTtl_range (E : Int) (r : Req) (tv : Option Int) : 0 ≤ dTtl E r tv ∧ dTtl E r tv ≤ I64_MAX :=
  max_clamp_range _

theorem dReset_range (E : Int) (r : Req) (tv : Option Int) : 0 ≤ dReset E r tv ∧ dReset E r tv ≤ I64_MAX :=
  max_clamp_range _

theorem dRetry_range (E : Int) (r : Req) (tv : Option Int) : 0 ≤ dRetry E r tv ∧ dRetry E r tv ≤ I64_MAX := by
  unfold dRetry
  split
  · decide
  · exact max_clamp_range _

theorem dRetry_eq_zero_iff {E : Int} {r : Req} {tv : Option Int} :
    dRetry E r tv = 0 ↔ dAllowed E r tv = true := by
  unfold dRetry dAllowed
  by_cases hal : r.now ≥ dAllowAt E r tv
  · simp [hal]
  · have := clamp_ge_of_ge (x := dAllowAt E r tv - r.now) (y := 1) (by decide) (by omega)
    simp only [hal, decide_false, Bool.false_eq_true, if_false, iff_false, satSub]
    omega

theorem dRetry_pos {E : Int} {r : Req} {tv : Option Int} (ha : dAllowed E r tv = false) :
    0 < dRetry E r tv := by
  have := (dRetry_range E r tv).1
  have : dRetry E r tv ≠ 0 := fun h0 => by rw [dRetry_eq_zero_iff.mp h0] at ha; cases ha
  omega

end TcVerif
