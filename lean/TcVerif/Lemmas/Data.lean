/-
  The association-list representation of the stores' tables.  `sweep` and `erase` are filters and
  unique keys are the library's `Nodup` of the key list (`nodupKeys_iff`): that a filter keeps unique
  keys unique (`nodup_filter`) and an absent key absent (`find_filter_none`) is proved once, for
  `List.filter`.  What a sweep shows of a key that is there is an induction of its own (`find_sweep`:
  under unique keys, the key's live entry); the writes are described through `live`, the entry a key
  shows at a given time.
-/
import TcVerif.Model.Store
namespace TcVerif
namespace Data

/-- no key occurs twice (what a `HashMap` guarantees) -/
def NodupKeys : Data → Prop
  | [] => True
  | e :: r => find r e.key = none ∧ NodupKeys r

def live (d : Data) (now : Int) (k : Key) : Option (Int × Int) :=
  match d.find k with
  | some (v, e) => if e > now then some (v, e) else none
  | none => none

@[simp] theorem find_nil (k : Key) : find [] k = none := rfl

theorem find_cons (e : Entry) (r : Data) (k : Key) :
    find (e :: r) k = if e.key = k then some (e.val, e.exp) else find r k := rfl

theorem sweep_eq_filter (d : Data) (now : Int) : sweep d now = d.filter (fun e => e.exp > now) := by
  induction d with
  | nil => rfl
  | cons x r ih => by_cases hx : x.exp > now <;> simp [sweep, hx, ih]

theorem erase_eq_filter (d : Data) (k : Key) : erase d k = d.filter (fun e => e.key ≠ k) := by
  induction d with
  | nil => rfl
  | cons x r ih => by_cases hx : x.key = k <;> simp [erase, hx, ih]

theorem mem_sweep {d : Data} {now : Int} {e : Entry} (h : e ∈ sweep d now) : e.exp > now ∧ e ∈ d := by
  rw [sweep_eq_filter, List.mem_filter] at h
  exact ⟨of_decide_eq_true h.2, h.1⟩

theorem mem_erase {d : Data} {k : Key} {e : Entry} (h : e ∈ erase d k) : e.key ≠ k ∧ e ∈ d := by
  rw [erase_eq_filter, List.mem_filter] at h
  exact ⟨of_decide_eq_true h.2, h.1⟩

theorem mem_insert {d : Data} {k : Key} {v x : Int} {e : Entry} (h : e ∈ insert d k v x) :
    e.key = k ∨ e ∈ d := by
  rcases List.mem_cons.mp h with h | h
  · exact Or.inl (by rw [h])
  · exact Or.inr (mem_erase h).2

theorem find_eq_none {d : Data} {k : Key} : find d k = none ↔ ∀ e ∈ d, e.key ≠ k := by
  induction d with
  | nil => exact ⟨fun _ _ he => (nomatch he), fun _ => rfl⟩
  | cons x rest ih =>
    rw [find_cons, List.forall_mem_cons]
    by_cases hx : x.key = k
    · simp [hx]
    · simp [hx, ih]

theorem nodupKeys_iff {d : Data} : NodupKeys d ↔ (d.map (·.key)).Nodup := by
  induction d with
  | nil => exact ⟨fun _ => List.nodup_nil, fun _ => trivial⟩
  | cons e r ih =>
    rw [List.map_cons, List.nodup_cons, ← ih, NodupKeys, find_eq_none]
    simp only [List.mem_map, not_exists, not_and]

theorem find_filter_none {d : Data} {k : Key} (p : Entry → Bool) (h : find d k = none) :
    find (d.filter p) k = none :=
  find_eq_none.mpr fun e he => find_eq_none.mp h e (List.mem_filter.mp he).1

theorem find_filter {d : Data} {k : Key} (p : Entry → Bool) (h : ∀ e ∈ d, e.key = k → p e = true) :
    find (d.filter p) k = find d k := by
  induction d with
  | nil => rfl
  | cons x r ih =>
    have ih := ih (fun e he => h e (List.mem_cons_of_mem _ he))
    rw [List.filter_cons]
    by_cases hx : x.key = k
    · rw [if_pos (h x (List.mem_cons_self ..) hx), find_cons, find_cons, if_pos hx, if_pos hx]
    · split
      · rw [find_cons, find_cons, if_neg hx, if_neg hx, ih]
      · rw [find_cons, if_neg hx, ih]

theorem nodup_filter {d : Data} (p : Entry → Bool) (h : NodupKeys d) : NodupKeys (d.filter p) :=
  nodupKeys_iff.mpr (((List.filter_sublist (l := d)).map _).nodup (nodupKeys_iff.mp h))

theorem find_erase_ne (d : Data) {k k' : Key} (h : k ≠ k') : find (d.erase k) k' = find d k' := by
  rw [erase_eq_filter]
  exact find_filter _ fun e _ he => decide_eq_true (he ▸ h.symm)

theorem find_erase_eq (d : Data) (k : Key) : find (d.erase k) k = none :=
  find_eq_none.mpr fun _ he => (mem_erase he).1

theorem find_erase_none {d : Data} (k : Key) {k' : Key} (h : find d k' = none) : find (d.erase k) k' = none := by
  rw [erase_eq_filter]
  exact find_filter_none _ h

theorem find_sweep_none {d : Data} (now : Int) {k : Key} (h : find d k = none) :
    find (sweep d now) k = none := by
  rw [sweep_eq_filter]
  exact find_filter_none _ h

theorem nodup_erase {d : Data} (k : Key) (h : NodupKeys d) : NodupKeys (d.erase k) := by
  rw [erase_eq_filter]
  exact nodup_filter _ h

theorem nodup_sweep {d : Data} (now : Int) (h : NodupKeys d) : NodupKeys (sweep d now) := by
  rw [sweep_eq_filter]
  exact nodup_filter _ h

theorem find_insert (d : Data) (k : Key) (v x : Int) (k' : Key) :
    find (insert d k v x) k' = if k = k' then some (v, x) else find d k' := by
  unfold insert
  by_cases h : k = k'
  · simp only [find_cons, h, if_true]
  · simp only [find_cons, h, if_false, find_erase_ne d h]

theorem nodup_insert {d : Data} (k : Key) (v x : Int) (h : NodupKeys d) :
    NodupKeys (insert d k v x) := by
  unfold insert
  exact ⟨find_erase_eq d k, nodup_erase k h⟩

theorem find_sweep {d : Data} (now : Int) (k : Key) (h : NodupKeys d) :
    find (sweep d now) k = live d now k := by
  unfold live
  induction d with
  | nil => rfl
  | cons e r ih =>
    have ih := ih h.2
    rw [sweep, find_cons]
    by_cases hek : e.key = k
    · subst hek
      split
      · simp only [find_cons, if_true, *]
      · -- an expired entry of `k` goes, and no other entry of `k` is there
        simp only [if_true, if_false, h.1, *]
    · split <;> simp only [find_cons, hek, if_false, ih]

theorem live_insert (d : Data) (k : Key) (v x now : Int) (k' : Key) :
    live (insert d k v x) now k' =
      if k = k' then (if x > now then some (v, x) else none) else live d now k' := by
  unfold live
  rw [find_insert]
  by_cases h : k = k' <;> simp [h]

theorem live_of_le (d : Data) {now now' : Int} (k : Key) (h : now ≤ now') :
    live d now' k =
      match live d now k with
      | some (v, e) => if e > now' then some (v, e) else none
      | none => none := by
  unfold live
  cases hf : find d k with
  | none => rfl
  | some p =>
    obtain ⟨v, e⟩ := p
    by_cases h1 : e > now'
    · have : e > now := by omega
      simp [h1, this]
    · by_cases h2 : e > now <;> simp [h1, h2]

theorem live_sweep {d : Data} {t now : Int} (k : Key) (h : NodupKeys d) (ht : t ≤ now) :
    live (sweep d t) now k = live d now k := by
  rw [live_of_le d k ht, ← find_sweep t k h]
  rfl

theorem get_eq_live (d : Data) (k : Key) (now : Int) :
    get d k now = (live d now k).map (·.1) := by
  unfold get live
  cases hf : find d k with
  | none => rfl
  | some p =>
    obtain ⟨v, e⟩ := p
    by_cases h1 : e > now <;> simp [h1]

theorem cas_eq (d : Data) (k : Key) (old new ttl now : Int) :
    cas d k old new ttl now =
      match live d now k with
      | some (cur, _) =>
          if cur = old then (d.insert k new (now + ttl), true, false) else (d, false, false)
      | none => (d, false, (find d k).isSome) := by
  unfold cas live
  cases hf : find d k with
  | none => rfl
  | some p =>
    obtain ⟨v, e⟩ := p
    by_cases h1 : e > now
    · have : ¬ e ≤ now := by omega
      simp [h1, this]
    · have : e ≤ now := by omega
      simp [h1, this]

theorem setnx_eq (d : Data) (k : Key) (v ttl now : Int) :
    setnx d k v ttl now =
      match live d now k with
      | some _ => (d, false, false)
      | none => (d.insert k v (now + ttl), true, (find d k).isSome) := by
  unfold setnx live
  cases hf : find d k with
  | none => rfl
  | some p =>
    obtain ⟨v', e⟩ := p
    by_cases h1 : e > now <;> simp [h1]

end Data
end TcVerif
