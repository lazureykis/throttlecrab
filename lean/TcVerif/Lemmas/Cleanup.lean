/-
  When the stores sweep and what a sweep leaves (C07).  Each store kind has a guaranteed cleanup point
  (`AnyStore.cleanupDue`); a write that falls on one acts on the swept table, so afterwards the table
  holds the entry just written and unexpired entries of the old table.  For the probabilistic store
  also the arithmetic of its trigger, as repaired (`Prob.fires`) and before (`Prob.firesWrapped`).
-/
import TcVerif.Lemmas.StoreSim
namespace TcVerif
open Data

theorem Periodic.maybeClean_of_due (s : Periodic) (now : Int) (h : now ≥ s.nextCleanup) :
    s.maybeClean now =
      { s with data := s.data.sweep now, expiredCount := s.data.length - (s.data.sweep now).length,
               nextCleanup := now + s.interval } :=
  if_pos h

/-- the deadline and the operation budget come first in `should_clean`, before the expired-ratio and
    table-pressure triggers -/
theorem Adaptive.maybeClean_of_due (s : Adaptive) (now : Int)
    (h : now ≥ s.nextCleanup ∨ s.opsSince + 1 ≥ s.maxOps) :
    s.maybeClean now =
      Adaptive.cleanup { s with opsSince := s.opsSince + 1, pressure := s.pressure.tail } now := by
  have hc : Adaptive.shouldClean { s with opsSince := s.opsSince + 1, pressure := s.pressure.tail } now
      (s.pressure.headD false) = true := by
    unfold Adaptive.shouldClean
    rcases h with h | h
    · simp [h]
    · by_cases h1 : now ≥ s.nextCleanup
      · simp [h1]
      · simp [h1, h]
  simp only [Adaptive.maybeClean, hc, if_true]

theorem Prob.fires_of_mod {ops N : Nat} (hN : 1 ≤ N) (h : ops % N = 0) : Prob.fires ops N = true := by
  have h0 : N ≠ 0 := by omega
  simp only [Prob.fires, h0, if_false, decide_eq_true_eq]
  exact Nat.mod_eq_zero_of_dvd (Nat.dvd_trans (Nat.dvd_of_mod_eq_zero h) (Nat.dvd_mul_right _ _))

theorem Prob.maybeCleanup_of_fires (s : Prob) (now : Int) (h : Prob.fires (s.opsCount + 1) s.modulus = true) :
    (s.maybeCleanup now).data = s.data.sweep now := by
  simp only [Prob.maybeCleanup, h, if_true]

/-- multiplied by `inv`, `h₀ + i·M` is congruent modulo `m` to `c + i` with `0 < c + i < m`
    (`c = h₀·inv mod m`) -/
theorem wrapped_quiet_arith {M T m inv h₀ i d : Nat}
    (hseg : h₀ + d * M < T) (hinv : M * inv % m = 1)
    (hc : 0 < h₀ * inv % m) (hb : h₀ * inv % m + d < m) (hi : i ≤ d) :
    (h₀ + i * M) % T % m ≠ 0 := by
  have hle : i * M ≤ d * M := Nat.mul_le_mul_right _ hi
  rw [Nat.mod_eq_of_lt (Nat.lt_of_le_of_lt (Nat.add_le_add_left hle _) hseg)]
  intro h0
  have h3 : (h₀ + i * M) * inv % m = 0 := by rw [Nat.mul_mod, h0, Nat.zero_mul, Nat.zero_mod]
  rw [Nat.add_mul, Nat.mul_assoc, Nat.add_mod, Nat.mul_mod i, hinv, Nat.mul_one, Nat.mod_mod,
    Nat.mod_eq_of_lt (a := i) (by omega), Nat.mod_eq_of_lt (by omega)] at h3
  omega

/-- Between two wraps of the 64-bit product (`hseg`: from `a` to `b` it grows from its wrapped value
    `h₀` at `a` without reaching `2^64`) the wrapped trigger is the linear congruence
    `h₀ + i·M ≡ 0 (mod m)` in `i = ops - a`, which has no solution there if `c = h₀·inv mod m`, for an
    inverse `inv` of the multiplier `M` modulo `m`, satisfies `0 < c` and `c + (b - a) < m`. -/
theorem Prob.firesWrapped_quiet {a b m inv : Nat}
    (hseg : a * PROB_MULT % TWO64 + (b - a) * PROB_MULT < TWO64)
    (hinv : PROB_MULT * inv % m = 1)
    (hc : 0 < a * PROB_MULT % TWO64 * inv % m)
    (hb : a * PROB_MULT % TWO64 * inv % m + (b - a) < m) :
    ∀ ops, a ≤ ops → ops ≤ b → Prob.firesWrapped ops m = false := by
  intro ops h1 h2
  obtain ⟨i, rfl⟩ := Nat.exists_eq_add_of_le h1
  have hm : m ≠ 0 := by omega
  have hi : i ≤ b - a := by omega
  have hlt : i * PROB_MULT < TWO64 :=
    Nat.lt_of_le_of_lt (Nat.le_trans (Nat.mul_le_mul_right _ hi) (Nat.le_add_left _ _)) hseg
  simp only [Prob.firesWrapped, hm, if_false, decide_eq_false_iff_not]
  rw [Nat.add_mul, Nat.add_mod, Nat.mod_eq_of_lt hlt]
  exact wrapped_quiet_arith hseg hinv hc hb hi

/-- is the write that comes next, at time `now`, a guaranteed cleanup point of this store? -/
def AnyStore.cleanupDue : AnyStore → Int → Prop
  | .amap _, _ => False
  | .periodic s, now => now ≥ s.nextCleanup
  | .adaptive s, now => now ≥ s.nextCleanup ∨ s.opsSince + 1 ≥ s.maxOps
  | .prob s, _ => 1 ≤ s.modulus ∧ (s.opsCount + 1) % s.modulus = 0

theorem AnyStore.writeTable_of_due {st : AnyStore} {now : Int} (hdue : st.cleanupDue now) :
    st.writeTable now = st.data.sweep now := by
  cases st with
  | amap s => exact hdue.elim
  | periodic s => exact congrArg Periodic.data (Periodic.maybeClean_of_due s now hdue)
  | adaptive s => exact congrArg Adaptive.data (Adaptive.maybeClean_of_due s now hdue)
  | prob s => exact Prob.maybeCleanup_of_fires s now (Prob.fires_of_mod hdue.1 hdue.2)

theorem cleanup_point_survivors (st : AnyStore) (now : Int) (hdue : st.cleanupDue now) (k : Key)
    (tv : Option Int) (new ttl : Int) :
    ∀ e ∈ (AnyStore.ops.put st k tv new ttl now).1.data, e.key = k ∨ (e.exp > now ∧ e ∈ st.data) := by
  intro e he
  rw [(anyStore_put st k tv new ttl now).2, AnyStore.writeTable_of_due hdue] at he
  exact (AMap.mem_put he).imp_right mem_sweep

def AllLiveExcept (d : Data) (now : Int) (k : Key) : Prop := ∀ e ∈ d, e.key = k ∨ e.exp > now

theorem cleanup_point_reclaimed (st : AnyStore) (hd : NodupKeys st.data) (now : Int) (hdue : st.cleanupDue now)
    (k : Key) (tv : Option Int) (new ttl : Int) :
    AllLiveExcept (AnyStore.ops.put st k tv new ttl now).1.data now k ∧
    NodupKeys (AnyStore.ops.put st k tv new ttl now).1.data :=
  ⟨fun e he => (cleanup_point_survivors st now hdue k tv new ttl e he).imp_right And.left,
   anyStore_put_nodup st hd k tv new ttl now⟩

def finalStore (st : AnyStore) : List SOp → AnyStore
  | [] => st
  | op :: rest => finalStore (applyOp AnyStore.ops st op).1 rest

theorem finalStore_nodup (st : AnyStore) (hd : NodupKeys st.data) (ops : List SOp) :
    NodupKeys (finalStore st ops).data := by
  induction ops generalizing st with
  | nil => exact hd
  | cons op rest ih => exact ih _ (applyOp_nodup st hd op)

end TcVerif
