/-
  Connection loop.  The two nested loops (`connLoop` over the reads, `drain` over the frames of a
  buffer) are described once as ONE loop without fuel, by the relation `Runs`: parse the buffer; a
  frame is answered and the rest parsed again; "need more data" fetches the next read
  (`connLoop_runs`, and `connRunS_runs` for a connection from its first read).  After that every
  fact about a connection is one induction over `Runs`.
  Main statement (`Runs.stream`): a chunked run writes and decodes an initial part of what the run
  on the whole stream does, and all of it unless the 64 KiB cap or an empty read cuts it short.
  Everything is proved for a stateful limiter `actor : σ → ThrottleReq → ActorAnswer × σ`.
-/
import TcVerif.Lemmas.RespCmd

namespace TcVerif.Resp

open TcVerif.Gen

theorem parse_bound {d v n} (h : parse d = .ok v n) : 1 ≤ n ∧ n ≤ d.length :=
  (decode_decOK RESP_MAX_DEPTH).bound d v n h

theorem parse_append {d r} (x : List UInt8) (h : parse d = r) (hr : r ≠ .incomplete) :
    parse (d ++ x) = r := by
  subst h
  exact (decode_decOK RESP_MAX_DEPTH).append d x hr

theorem parse_incomplete_of_prefix {p d} (hpd : p <+: d) (h : parse d = .incomplete) :
    parse p = .incomplete := by
  obtain ⟨x, rfl⟩ := hpd
  cases hp : parse p with
  | incomplete => rfl
  | _ => rw [parse_append x hp nofun] at h; cases h

theorem parse_take {d v n} (k : Nat) (h : parse d = .ok v n) (hk : n ≤ k) :
    parse (d.take k) = .ok v n :=
  (decode_decOK RESP_MAX_DEPTH).take d v n k h hk

theorem parse_nil : parse [] = .incomplete := decode_nil _

theorem parse_wf {d v n} (h : parse d = .ok v n) : WF v :=
  WF_iff.mpr (decode_sizesOk_depth RESP_MAX_DEPTH d v n h)

/-- a frame is at least one byte, so dropping it pays for one unit of fuel -/
theorem length_drop_le {a : List UInt8} {n g : Nat} (hn : 1 ≤ n) (hg : a.length ≤ g + 1) :
    (a.drop n).length ≤ g := by
  rw [List.length_drop]; omega

section
variable {σ : Type} (actor : σ → ThrottleReq → ActorAnswer × σ)
  (upperOf : List UInt8 → List UInt8)

/-- the whole stream handed to the loop at once (no cap) -/
def streamRun (st : σ) (s : List UInt8) : DrainRes σ := drain actor upperOf s.length st s

/-- the commands `drain` processes (`drain_cmds`), on `drain`'s fuel.  Fuel `≥ s.length` is enough,
    as for `drain` (`Runs.stream`): hence `frames upperOf s.length s` in C10's statements. -/
def frames (upperOf : List UInt8 → List UInt8) : Nat → List UInt8 → List Value
  | fuel, s =>
    match parse s with
    | .ok v n =>
      if isQuit v (upperFor upperOf v) then [v]
      else
        match fuel with
        | 0 => [v]
        | f + 1 => v :: frames upperOf f (s.drop n)
    | _ => []

theorem drain_cmds (f : Nat) (st : σ) (a : List UInt8) :
    (drain actor upperOf f st a).cmds = frames upperOf f a := by
  fun_induction drain actor upperOf f st a with
  | case1 _ _ _ hp | case2 _ _ _ hp => rw [frames, hp]
  | case3 _ _ _ _ _ hp _ hq => rw [frames, hp]; exact (if_pos hq).symm
  | case4 _ _ _ _ hp _ hq => rw [frames, hp]; exact (if_neg hq).symm
  | case5 _ _ _ _ hp _ hq _ _ ih =>
    rw [frames, hp]
    exact (congrArg _ ih).trans (if_neg hq).symm

theorem connLoop_nil (st : σ) (buf : List UInt8) :
    connLoop actor upperOf [] st buf = ⟨[], .open buf, [], [], st⟩ := rfl

/-- `Runs cs st buf K`: the two nested loops of the connection as one, started where `buf` is
    about to be parsed and `cs` are the reads to come.  A frame is answered and the rest parsed;
    "need more data" fetches the next read. -/
inductive Runs : List (List UInt8) → σ → List UInt8 → ConnRes σ → Prop
  | frame {cs st buf v n K} : parse buf = .ok v n → ¬ isQuit v (upperFor upperOf v) = true →
      Runs cs (respondS actor upperOf st v).2 (buf.drop n) K →
      Runs cs st buf ⟨encode (respondS actor upperOf st v).1 ++ K.out, K.end,
        buf.length :: K.parsed, v :: K.cmds, K.st⟩
  | quit {cs st buf v n} : parse buf = .ok v n → isQuit v (upperFor upperOf v) = true →
      Runs cs st buf ⟨encode (respondS actor upperOf st v).1, .quit, [buf.length], [v],
        (respondS actor upperOf st v).2⟩
  | error {cs st buf} : parse buf = .error →
      Runs cs st buf ⟨[], .protocolError, [buf.length], [], st⟩
  | «open» {st buf} : parse buf = .incomplete → Runs [] st buf ⟨[], .open buf, [buf.length], [], st⟩
  | eof {cs st buf} : parse buf = .incomplete →
      Runs ([] :: cs) st buf ⟨[], .eof, [buf.length], [], st⟩
  | overflow {c cs st buf} : parse buf = .incomplete → c ≠ [] →
      (buf ++ c).length > RESP_MAX_BUFFER →
      Runs (c :: cs) st buf ⟨[], .overflow, [buf.length], [], st⟩
  | read {c cs st buf K} : parse buf = .incomplete → c ≠ [] →
      (buf ++ c).length ≤ RESP_MAX_BUFFER → Runs cs st (buf ++ c) K →
      Runs (c :: cs) st buf { K with parsed := buf.length :: K.parsed }

/-- what `connLoop` does with a drained read: go on with the reads to come, or stop -/
def DrainRes.andThen (r : DrainRes σ) (k : σ → List UInt8 → ConnRes σ) : ConnRes σ :=
  match r.end with
  | .more b =>
    let K := k r.st b
    ⟨r.out ++ K.out, K.end, r.parsed ++ K.parsed, r.cmds ++ K.cmds, K.st⟩
  | .quit => ⟨r.out, .quit, r.parsed, r.cmds, r.st⟩
  | .error => ⟨r.out, .protocolError, r.parsed, r.cmds, r.st⟩

theorem andThen_frame (e : List UInt8) (l : Nat) (v : Value) (r : DrainRes σ)
    (k : σ → List UInt8 → ConnRes σ) :
    DrainRes.andThen ⟨e ++ r.out, r.end, l :: r.parsed, v :: r.cmds, r.st⟩ k =
      ⟨e ++ (r.andThen k).out, (r.andThen k).end, l :: (r.andThen k).parsed,
        v :: (r.andThen k).cmds, (r.andThen k).st⟩ := by
  simp only [DrainRes.andThen]
  cases r.end <;> simp only [List.append_assoc, List.cons_append]

theorem connLoop_cons (c : List UInt8) (cs : List (List UInt8)) (st : σ) (buf : List UInt8) :
    connLoop actor upperOf (c :: cs) st buf =
      if c = [] then ⟨[], .eof, [], [], st⟩
      else if (buf ++ c).length > RESP_MAX_BUFFER then ⟨[], .overflow, [], [], st⟩
      else (streamRun actor upperOf st (buf ++ c)).andThen (connLoop actor upperOf cs) := by
  rw [connLoop]
  simp only [List.isEmpty_iff]
  rfl

/-- `Runs` starts by parsing `buf`; `connLoop` (the `k` here) starts by reading, after a parse that
    found `buf` unfinished: that parse is the one entry of `parsed` which `Runs` has and `k` lacks -/
theorem drain_runs {cs : List (List UInt8)} {k : σ → List UInt8 → ConnRes σ}
    (hk : ∀ st b, parse b = .incomplete →
      Runs actor upperOf cs st b { k st b with parsed := b.length :: (k st b).parsed })
    (f : Nat) (st : σ) (a : List UInt8) :
    a.length ≤ f → Runs actor upperOf cs st a ((drain actor upperOf f st a).andThen k) := by
  fun_induction drain actor upperOf f st a with
  | case1 _ _ _ hp => exact fun _ => hk _ _ hp
  | case2 _ _ _ hp => exact fun _ => .error hp
  | case3 _ _ _ _ _ hp _ hq => exact fun _ => .quit hp hq
  | case4 _ _ _ _ hp => intro h; have := parse_bound hp; omega
  | case5 _ _ _ _ hp _ hq _ _ ih =>
    intro h
    rw [andThen_frame]
    exact .frame hp hq (ih (length_drop_le (parse_bound hp).1 h))

theorem connLoop_runs (cs : List (List UInt8)) : ∀ (st : σ) (buf : List UInt8),
    parse buf = .incomplete →
    Runs actor upperOf cs st buf { connLoop actor upperOf cs st buf with
      parsed := buf.length :: (connLoop actor upperOf cs st buf).parsed } := by
  induction cs with
  | nil => exact fun st buf hp => .open hp
  | cons c cs ih =>
    intro st buf hp
    rw [connLoop_cons]
    by_cases hc : c = []
    · rw [if_pos hc]; subst hc; exact .eof hp
    rw [if_neg hc]
    by_cases hov : (buf ++ c).length > RESP_MAX_BUFFER
    · rw [if_pos hov]; exact .overflow hp hc hov
    · rw [if_neg hov]
      exact .read hp hc (Nat.le_of_not_gt hov) (drain_runs actor upperOf ih _ st _ (Nat.le_refl _))

theorem connRunS_runs (st : σ) (cs : List (List UInt8)) :
    Runs actor upperOf cs st [] { connRunS actor upperOf st cs with
      parsed := 0 :: (connRunS actor upperOf st cs).parsed } :=
  connLoop_runs actor upperOf cs st [] parse_nil

variable {actor upperOf} {st : σ} {buf : List UInt8} {cs : List (List UInt8)} {K : ConnRes σ}

theorem Runs.out_st (h : Runs actor upperOf cs st buf K) :
    K.out = ((replies actor upperOf st K.cmds).1.map encode).flatten ∧
    K.st = (replies actor upperOf st K.cmds).2 := by
  induction h with
  | frame _ _ _ ih =>
    simp only [replies, List.map_cons, List.flatten_cons, ← ih.1, ← ih.2, and_self]
  | read _ _ _ _ ih => exact ih
  | _ => simp [replies]

theorem Runs.cmds_wf (h : Runs actor upperOf cs st buf K) : ∀ v ∈ K.cmds, WF v := by
  induction h with
  | frame hp _ _ ih => exact List.forall_mem_cons.mpr ⟨parse_wf hp, ih⟩
  | quit hp => exact List.forall_mem_cons.mpr ⟨parse_wf hp, nofun⟩
  | read _ _ _ _ ih => exact ih
  | _ => exact nofun

/-- a read that would take the buffer past the cap ends the run before anything is parsed, so every
    buffer handed to `parse` and the leftover of an open connection are within it -/
theorem Runs.buffer_le_cap (h : Runs actor upperOf cs st buf K) : buf.length ≤ RESP_MAX_BUFFER →
    (∀ n ∈ K.parsed, n ≤ RESP_MAX_BUFFER) ∧ ∀ b, K.end = .open b → b.length ≤ RESP_MAX_BUFFER := by
  induction h with
  | frame _ _ _ ih =>
    intro hb
    have := ih (Nat.le_trans (List.drop_sublist _ _).length_le hb)
    exact ⟨List.forall_mem_cons.mpr ⟨hb, this.1⟩, this.2⟩
  | read _ _ hfit _ ih => exact fun hb => ⟨List.forall_mem_cons.mpr ⟨hb, (ih hfit).1⟩, (ih hfit).2⟩
  | «open» => exact fun hb => ⟨List.forall_mem_cons.mpr ⟨hb, nofun⟩, fun b h => by cases h; exact hb⟩
  | _ => exact fun hb => ⟨List.forall_mem_cons.mpr ⟨hb, nofun⟩, nofun⟩

/-- how a connection with no read left ends, from how its last `drain` ended -/
def endOfDrain : DrainEnd → ConnEnd
  | .more r => .open r
  | .quit => .quit
  | .error => .protocolError

/-- `S`: the stream handed to `drain` at once, on any fuel `≥` its length (that never runs out:
    every frame consumes a byte) -/
theorem Runs.stream (h : Runs actor upperOf cs st buf K) :
    ∀ f, (buf ++ cs.flatten).length ≤ f →
    let S := drain actor upperOf f st (buf ++ cs.flatten)
    K.out <+: S.out ∧ K.cmds <+: S.cmds ∧
    ((∀ c ∈ cs, c ≠ []) → K.end ≠ .overflow →
      (K.out, K.end, K.cmds, K.st) = (S.out, endOfDrain S.end, S.cmds, S.st)) := by
  induction h with
  | @frame cs _ _ _ _ _ hp hq _ ih =>
    intro f hf
    have hp' := parse_append cs.flatten hp nofun
    have hb := parse_bound hp'
    cases f with
    | zero => omega
    | succ f =>
      replace ih := ih f
        (List.drop_append_of_le_length (parse_bound hp).2 ▸ length_drop_le hb.1 hf)
      rw [drain, hp']
      simp only [hq, Bool.false_eq_true, if_false, List.drop_append_of_le_length (parse_bound hp).2]
      refine ⟨(List.prefix_append_right_inj _).mpr ih.1, List.cons_prefix_cons.mpr ⟨rfl, ih.2.1⟩,
        fun hne hno => ?_⟩
      have := ih.2.2 hne hno
      simp only [Prod.mk.injEq] at this ⊢
      simp only [this, and_self]
  | @quit cs _ _ _ _ hp hq =>
    intro f _
    rw [drain, parse_append cs.flatten hp nofun]
    simp only [hq, if_true, endOfDrain, List.prefix_rfl, implies_true, and_self]
  | @error cs _ _ hp =>
    intro f _
    rw [drain, parse_append cs.flatten hp nofun]
    simp only [endOfDrain, List.prefix_rfl, implies_true, and_self]
  | «open» hp =>
    intro f _
    rw [List.flatten_nil, List.append_nil, drain, hp]
    simp only [endOfDrain, List.prefix_rfl, implies_true, and_self]
  | eof =>
    exact fun _ _ =>
      ⟨List.nil_prefix, List.nil_prefix, fun hne => absurd rfl (hne [] (List.mem_cons_self ..))⟩
  | overflow => exact fun _ _ => ⟨List.nil_prefix, List.nil_prefix, fun _ h => absurd rfl h⟩
  | read _ _ _ _ ih =>
    intro f hf
    rw [List.flatten_cons, ← List.append_assoc] at hf ⊢
    exact ⟨(ih f hf).1, (ih f hf).2.1,
      fun hne => (ih f hf).2.2 (List.forall_mem_cons.mp hne).2⟩

/-- a frame still unfinished at the cap: the buffer is a prefix of the first 64 KiB of the stream,
    so it is never decided, and the stream is longer than the cap, so one read does not fit -/
theorem Runs.long_frame (h : Runs actor upperOf cs st buf K) :
    (∀ c ∈ cs, c ≠ []) → buf.length ≤ RESP_MAX_BUFFER →
    parse ((buf ++ cs.flatten).take RESP_MAX_BUFFER) = .incomplete →
    RESP_MAX_BUFFER < (buf ++ cs.flatten).length →
    K.end = .overflow ∧ K.out = [] ∧ K.cmds = [] := by
  induction h with
  | frame hp | quit hp | error hp =>
    intro _ hb hinc _
    cases hp.symm.trans (parse_incomplete_of_prefix
      (List.prefix_take_iff.mpr ⟨List.prefix_append _ _, hb⟩) hinc)
  | «open» => intro _ hb _ hl; simp at hl; omega
  | eof => exact fun hne => absurd rfl (hne [] (List.mem_cons_self ..))
  | overflow => exact fun _ _ _ _ => ⟨rfl, rfl, rfl⟩
  | read _ _ hfit _ ih =>
    intro hne _ hinc hl
    rw [List.flatten_cons, ← List.append_assoc] at hinc hl
    exact ih (List.forall_mem_cons.mp hne).2 hfit hinc hl

end

/-- `Runs.stream` for a connection: against the run on its whole stream at once -/
theorem connRunS_stream {σ : Type} (actor : σ → ThrottleReq → ActorAnswer × σ)
    (upperOf : List UInt8 → List UInt8) (st : σ) (cs : List (List UInt8)) :
    let K := connRunS actor upperOf st cs
    let S := streamRun actor upperOf st cs.flatten
    K.out <+: S.out ∧ K.cmds <+: S.cmds ∧
    ((∀ c ∈ cs, c ≠ []) → K.end ≠ .overflow →
      (K.out, K.end, K.cmds, K.st) = (S.out, endOfDrain S.end, S.cmds, S.st)) :=
  (connRunS_runs actor upperOf st cs).stream _ (Nat.le_refl _)

/-- the cap less one read: a buffer within it takes any read of ≤ 1024 bytes without overflow -/
def FRAME_LIMIT : Nat := RESP_MAX_BUFFER - RESP_READ_CHUNK

/-- every frame is decided (value or error) within the cap less one read, and an unfinished tail
    is at most that long -/
inductive FramesSmall : List UInt8 → Prop
  | tail (s : List UInt8) : parse (s.take FRAME_LIMIT) = .incomplete → s.length ≤ FRAME_LIMIT →
      FramesSmall s
  | bad (s : List UInt8) : parse (s.take FRAME_LIMIT) = .error → FramesSmall s
  | frame (s : List UInt8) (v : Value) (n : Nat) : parse (s.take FRAME_LIMIT) = .ok v n →
      FramesSmall (s.drop n) → FramesSmall s

theorem incomplete_prefix_small {buf rest : List UInt8} (hs : FramesSmall (buf ++ rest))
    (hinc : parse buf = .incomplete) : buf.length ≤ FRAME_LIMIT := by
  refine Nat.le_of_not_lt fun hlt => ?_
  have hq : parse ((buf ++ rest).take FRAME_LIMIT) = .incomplete := by
    rw [List.take_append_of_le_length (Nat.le_of_lt hlt)]
    exact parse_incomplete_of_prefix (List.take_prefix _ _) hinc
  cases hs with
  | tail _ _ hl => rw [List.length_append] at hl; omega
  | bad _ hp => rw [hq] at hp; cases hp
  | frame _ _ _ hp => rw [hq] at hp; cases hp

theorem FramesSmall.step {s : List UInt8} {v : Value} {n : Nat} (hs : FramesSmall s)
    (hp : parse s = .ok v n) : FramesSmall (s.drop n) := by
  have key {r} (hq : parse (s.take FRAME_LIMIT) = r) (hr : r ≠ .incomplete) : .ok v n = r := by
    rw [← hp, ← parse_append (s.drop FRAME_LIMIT) hq hr, List.take_append_drop]
  cases hs with
  | tail _ hq hl => rw [List.take_of_length_le hl, hp] at hq; cases hq
  | bad _ hq => cases key hq nofun
  | frame _ _ _ hq hrest => cases key hq nofun; exact hrest

theorem Runs.no_overflow {σ : Type} {actor : σ → ThrottleReq → ActorAnswer × σ}
    {upperOf : List UInt8 → List UInt8} {cs : List (List UInt8)} {st : σ} {buf : List UInt8}
    {K : ConnRes σ} (h : Runs actor upperOf cs st buf K) :
    (∀ c ∈ cs, c.length ≤ RESP_READ_CHUNK) → FramesSmall (buf ++ cs.flatten) →
    K.end ≠ .overflow := by
  induction h with
  | @frame cs _ _ _ _ _ hp _ _ ih =>
    intro hcs hs
    have h2 := hs.step (parse_append cs.flatten hp nofun)
    rw [List.drop_append_of_le_length (parse_bound hp).2] at h2
    exact ih hcs h2
  | @overflow c _ _ buf hinc _ hov =>
    -- an undecided buffer is at most `FRAME_LIMIT` long, so one more read of ≤ 1024 bytes fits
    intro hcs hs
    have hsmall := incomplete_prefix_small hs hinc
    have := hcs c (List.mem_cons_self ..)
    simp only [List.length_append, FRAME_LIMIT, RESP_MAX_BUFFER, RESP_READ_CHUNK] at *
    omega
  | read _ _ _ _ ih =>
    intro hcs hs
    rw [List.flatten_cons, ← List.append_assoc] at hs
    exact ih (List.forall_mem_cons.mp hcs).2 hs
  | _ => exact fun _ _ => nofun

/-- `cs` cuts the stream `s` into reads: none empty (an empty read is EOF), none above 1024 bytes -/
def IsChunking (cs : List (List UInt8)) (s : List UInt8) : Prop :=
  cs.flatten = s ∧ ∀ c ∈ cs, c ≠ [] ∧ c.length ≤ RESP_READ_CHUNK

end TcVerif.Resp
