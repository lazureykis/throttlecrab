/-
  Arithmetic of `decision` on the normal domain D: no saturation happens, every field has
  its ideal (unbounded-integer) value.
-/
import TcVerif.Lemmas.Decision
namespace TcVerif

/-- the normal domain D for one key's limits -/
structure DomD (E B : Int) : Prop where
  hE : 1 ≤ E
  hB : 1 ≤ B
  hBE : B * E ≤ TWO60

/-- `dTat` without the clamps, which is what `dTat` is on D (`ReqD.tat_eq`): the TAT a request
    stamped `now` is measured against, a stale or absent stored value counting as `now - E` -/
def gTat (E now : Int) (tv : Option Int) : Int := effTat (now - E) tv

theorem le_gTat (E now : Int) (tv : Option Int) : now - E ≤ gTat E now tv := le_effTat _ _

theorem DomD.E_le {E B : Int} (h : DomD E B) : E ≤ B * E := by
  have := Int.mul_le_mul_of_nonneg_right h.hB (Int.le_trans (by decide) h.hE)
  rwa [Int.one_mul] at this

theorem DomD.E_range {E B : Int} (h : DomD E B) : 1 ≤ E ∧ E ≤ TWO60 :=
  ⟨h.hE, Int.le_trans h.E_le h.hBE⟩

theorem DomD.tau_range {E B : Int} (h : DomD E B) : 0 ≤ B * E - E ∧ B * E - E ≤ TWO60 :=
  ⟨Int.sub_nonneg_of_le h.E_le, Int.le_trans (Int.sub_le_self _ (Int.le_trans (by decide) h.hE)) h.hBE⟩

/-- the lifetime pad `max τ E` that `decision` adds, on D: one interval at least, the burst at most -/
theorem DomD.pad_bounds {E B : Int} (h : DomD E B) : E ≤ max (B * E - E) E ∧ max (B * E - E) E ≤ B * E :=
  ⟨Int.le_max_right _ _, Int.max_le.mpr ⟨Int.sub_le_self _ (Int.le_trans (by decide) h.hE), h.E_le⟩⟩

theorem eNs_D {E B : Int} (h : DomD E B) : eNs E = E :=
  if_neg (Int.not_lt.mpr (Int.le_trans h.E_range.2 (by decide)))

theorem tauNs_D {E B : Int} (h : DomD E B) : tauNs E B = B * E - E := by
  unfold tauNs satMul
  rw [eNs_D h, Int.mul_sub, Int.mul_one, Int.mul_comm]
  exact clamp_id h.tau_range

/-- one call inside D that read `tv` -/
structure ReqD (E B : Int) (r : Req) (tv : Option Int) : Prop where
  dom : DomD E B
  burst : r.burst = B
  qty : 0 ≤ r.qty
  now0 : 0 ≤ r.now
  now1 : r.now ≤ T_MAX
  stored : ∀ v, tv = some v → -TWO62 ≤ v ∧ v ≤ V_MAX

/-! On D nothing saturates before the product `qty * E` does: each operand has a range between
numerals (`*_range`), so has each intermediate value (`range_add`, `range_sub`), and all of them lie
within i64.  `omega` is left with the facts that relate two values: that an admitted cost fits the
burst, and that a lifetime is not negative.
The cost is written `r.qty * E` as in `Bucket.step`, not `E * r.qty` as `decision` multiplies. -/

namespace ReqD
variable {E B : Int} {r : Req} {tv : Option Int} (h : ReqD E B r tv)
include h

theorem now_range : 0 ≤ r.now ∧ r.now ≤ T_MAX := ⟨h.now0, h.now1⟩

theorem tat_range : -TWO60 ≤ gTat E r.now tv ∧ gTat E r.now tv ≤ V_MAX :=
  have hm := range_sub h.now_range h.dom.E_range
  ⟨Int.le_trans (Int.le_trans (by decide) hm.1) (le_gTat ..),
    effTat_le (Int.le_trans hm.2 (by decide)) fun v hv => (h.stored v hv).2⟩

theorem cost_nonneg : 0 ≤ r.qty * E := Int.mul_nonneg h.qty (Int.le_trans (by decide) h.dom.hE)

theorem sum_range (hp : r.qty * E ≤ TWO61) :
    -TWO60 ≤ gTat E r.now tv + r.qty * E ∧ gTat E r.now tv + r.qty * E ≤ V_MAX + TWO61 :=
  range_mono (range_add h.tat_range ⟨h.cost_nonneg, hp⟩)

theorem tau_eq : tauNs E r.burst = B * E - E := by
  rw [h.burst]; exact tauNs_D h.dom

theorem tat_eq : dTat E r tv = gTat E r.now tv := by
  unfold dTat gTat dMinTat satSub
  rw [eNs_D h.dom, clamp_id (range_sub h.now_range h.dom.E_range)]

theorem pad_eq : dPad E r = max (B * E - E) E := by
  unfold dPad; rw [h.tau_eq, eNs_D h.dom]

theorem pad_ge : E ≤ dPad E r := by
  rw [h.pad_eq]; exact h.dom.pad_bounds.1

theorem pad_range : 1 ≤ dPad E r ∧ dPad E r ≤ TWO60 :=
  ⟨Int.le_trans h.dom.hE h.pad_ge, by rw [h.pad_eq]; exact Int.le_trans h.dom.pad_bounds.2 h.dom.hBE⟩

/-- The admission test is exact whether or not the product saturates: each of the three
    clamps is compared with an i64 below the maximum, and that a clamp does not change. -/
theorem allowed_iff : dAllowed E r tv = true ↔ gTat E r.now tv + r.qty * E ≤ r.now + (B * E - E) := by
  have hy := range_add h.now_range h.dom.tau_range
  unfold dAllowed dAllowAt dNew dInc satSub satAdd satMul
  rw [h.tat_eq, h.tau_eq, eNs_D h.dom, Int.mul_comm E r.qty, decide_eq_true_iff, ge_iff_le,
    clamp_le_iff h.now_range, Int.sub_right_le_iff_le_add, clamp_le_iff hy, Int.add_comm,
    Int.add_le_iff_le_sub, clamp_le_iff (range_sub hy h.tat_range), ← Int.add_le_iff_le_sub, Int.add_comm]

theorem new_eq (hp : r.qty * E ≤ TWO61) : dNew E r tv = gTat E r.now tv + r.qty * E := by
  unfold dNew dInc satAdd satMul
  rw [h.tat_eq, eNs_D h.dom, Int.mul_comm E r.qty, clamp_id ⟨h.cost_nonneg, hp⟩,
    clamp_id (h.sum_range hp)]

/-- an admitted cost is at most `burst × interval` -/
theorem admitted_cost (ha : dAllowed E r tv = true) : r.qty * E ≤ TWO60 := by
  have := h.allowed_iff.mp ha; have := le_gTat E r.now tv; have := h.dom.hBE
  omega

theorem cur_eq :
    dCur E r tv = if dAllowed E r tv then gTat E r.now tv + r.qty * E else gTat E r.now tv := by
  unfold dCur
  split
  · next ha => exact h.new_eq (Int.le_trans (h.admitted_cost ha) (by decide))
  · exact h.tat_eq

theorem cur_ge : r.now - E ≤ dCur E r tv := by
  rw [h.cur_eq]
  split
  · exact Int.le_trans (le_gTat ..) (Int.le_add_of_nonneg_right h.cost_nonneg)
  · exact le_gTat E r.now tv

theorem cur_range : -TWO60 ≤ dCur E r tv ∧ dCur E r tv ≤ V_MAX + TWO60 := by
  rw [h.cur_eq]
  split
  · next ha => exact range_mono (range_add h.tat_range ⟨h.cost_nonneg, h.admitted_cost ha⟩)
  · exact range_mono h.tat_range

theorem remaining_eq : dRemaining E r tv = max (Int.tdiv (r.now + (B * E - E) - dCur E r tv) E) 0 := by
  have hy := range_add h.now_range h.dom.tau_range
  unfold dRemaining dRoom satSub satAdd
  rw [eNs_D h.dom, h.tau_eq, if_pos (show E > 0 from h.dom.hE), clamp_id hy,
    clamp_id (range_sub hy h.cur_range)]

theorem reset_eq : dReset E r tv = max (dCur E r tv - r.now + dPad E r) 0 := by
  have hd := range_sub h.cur_range h.now_range
  unfold dReset satAdd satSub
  rw [clamp_id hd, clamp_id (range_add hd h.pad_range)]

theorem ttl_eq (hp : r.qty * E ≤ TWO61) : dTtl E r tv = gTat E r.now tv + r.qty * E - r.now + dPad E r := by
  have h0 : 0 ≤ gTat E r.now tv + r.qty * E - r.now + dPad E r := by
    have := le_gTat E r.now tv; have := h.cost_nonneg; have := h.pad_ge
    omega
  have hd := range_sub (h.sum_range hp) h.now_range
  unfold dTtl satAdd satSub
  rw [h.new_eq hp, clamp_id hd, clamp_id (range_add hd h.pad_range),
    Int.max_eq_left h0]

theorem retry_eq (ha : dAllowed E r tv = false) (hp : r.qty * E ≤ TWO61) :
    dRetry E r tv = gTat E r.now tv + r.qty * E - (B * E - E) - r.now := by
  have h0 : 0 ≤ gTat E r.now tv + r.qty * E - (B * E - E) - r.now := by
    have := mt h.allowed_iff.mpr (Bool.eq_false_iff.mp ha)
    omega
  have hd := range_sub (h.sum_range hp) h.dom.tau_range
  unfold dRetry dAllowAt satSub
  rw [ha, h.new_eq hp, h.tau_eq, clamp_id hd, clamp_id (range_sub hd h.now_range),
    if_neg Bool.false_ne_true, Int.max_eq_left h0]

end ReqD

/-- The `ReqD.*` lemmas as one statement about `decision` itself.  `τ`, `tat`, `p` are variables tied
    by equations so that a caller chooses what stands for the tolerance, the effective TAT and the
    cost: the terms themselves (with `rfl`), or names of its own context, which `omega` then takes for
    atoms.  `hp` gives the cost with the factors in the order in which `decision` multiplies them, `E * r.qty`;
    the proof turns it into the `r.qty * E` of the `ReqD.*` lemmas, which the proofs of the development use
    one by one. -/
theorem decision_D {E B : Int} {r : Req} {tv : Option Int} (h : ReqD E B r tv)
    (τ tat p : Int) (hτ : τ = B * E - E) (htat : tat = gTat E r.now tv) (hp : p = E * r.qty) :
    let d := decision E r tv
    d.tat = tat ∧
    (d.allowed = true ↔ tat + p ≤ r.now + τ) ∧
    (p ≤ TWO61 → d.newTat = tat + p) ∧
    (p ≤ TWO61 → d.ttl = tat + p - r.now + max τ E) ∧
    d.write = (d.allowed && decide (r.qty > 0)) ∧
    d.outcome.isOk = true ∧
    d.outcome.allowed = d.allowed ∧
    d.outcome.limit = B ∧
    d.outcome.remaining = max (Int.tdiv (r.now + τ - (if d.allowed then tat + p else tat)) E) 0 ∧
    d.outcome.resetNs = max ((if d.allowed then tat + p else tat) - r.now + max τ E) 0 ∧
    (d.allowed = true → d.outcome.retryNs = 0) ∧
    (d.allowed = false → p ≤ TWO61 → d.outcome.retryNs = tat + p - τ - r.now) ∧
    (d.allowed = false → 0 < d.outcome.retryNs) := by
  subst hτ htat hp
  rw [decision_eq, Int.mul_comm E r.qty]
  refine ⟨h.tat_eq, h.allowed_iff, h.new_eq, ?_, rfl, rfl, rfl, h.burst, ?_, ?_,
    dRetry_eq_zero_iff.mpr, h.retry_eq, dRetry_pos⟩
  · intro hp
    show dTtl E r tv = _
    rw [h.ttl_eq hp, h.pad_eq]
  · show dRemaining E r tv = _
    rw [h.remaining_eq, h.cur_eq]
  · show dReset E r tv = _
    rw [h.reset_eq, h.cur_eq, h.pad_eq]

end TcVerif
