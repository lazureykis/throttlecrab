/-
  `validUtf8` is closed under concatenation (replies are put together from pieces) and under
  byte-wise maps that change ASCII bytes only (`sanitize`).  Both are read off one induction along
  the code points, `validUtf8_map_append`; the lemmas before it say that no byte of a multi-byte
  code point is ASCII.
-/
import TcVerif.Model.Resp

namespace TcVerif.Resp

theorem validUtf8_cons (b0 : UInt8) (r0 : List UInt8) : validUtf8 (b0 :: r0) =
    if b0 < 0x80 then validUtf8 r0
    else if 0xC2 ≤ b0 && b0 ≤ 0xDF then
      match r0 with
      | b1 :: r1 => isCont b1 && validUtf8 r1
      | [] => false
    else if 0xE0 ≤ b0 && b0 ≤ 0xEF then
      match r0 with
      | b1 :: b2 :: r2 =>
        (if b0 = 0xE0 then 0xA0 ≤ b1 && b1 ≤ 0xBF
         else if b0 = 0xED then 0x80 ≤ b1 && b1 ≤ 0x9F
         else isCont b1) && isCont b2 && validUtf8 r2
      | _ => false
    else if 0xF0 ≤ b0 && b0 ≤ 0xF4 then
      match r0 with
      | b1 :: b2 :: b3 :: r3 =>
        (if b0 = 0xF0 then 0x90 ≤ b1 && b1 ≤ 0xBF
         else if b0 = 0xF4 then 0x80 ≤ b1 && b1 ≤ 0x8F
         else isCont b1) && isCont b2 && isCont b3 && validUtf8 r3
      | _ => false
    else false := by
  rw [validUtf8.eq_def]; rfl

theorem validUtf8_ascii : ∀ (l : List UInt8), (∀ c ∈ l, c < 128) → validUtf8 l = true
  | [], _ => rfl
  | c :: cs, h => by
    rw [validUtf8_cons]
    have hc : c < 128 := h c (by simp)
    simp only [hc, if_true]
    exact validUtf8_ascii cs (fun c' hc' => h c' (by simp [hc']))

theorem not_ascii_of_range {lo b hi : UInt8} (hlo : ¬ lo < 128) (h : (lo ≤ b && b ≤ hi) = true) :
    ¬ b < 128 := by
  simp [UInt8.le_iff_toNat_le, UInt8.lt_iff_toNat_lt] at *; omega

theorem isCont_not_ascii {b : UInt8} (h : isCont b = true) : ¬ b < 128 :=
  not_ascii_of_range (lo := 0x80) (by decide) h

/-- the byte after a three- or four-byte lead is not ASCII, whichever of the three ranges applies -/
theorem second_byte_not_ascii {p q : Prop} [Decidable p] [Decidable q] {l₁ h₁ l₂ h₂ b : UInt8}
    (hl₁ : ¬ l₁ < 128) (hl₂ : ¬ l₂ < 128)
    (h : (if p then l₁ ≤ b && b ≤ h₁ else if q then l₂ ≤ b && b ≤ h₂ else isCont b) = true) :
    ¬ b < 128 := by
  split at h
  · exact not_ascii_of_range hl₁ h
  · split at h
    · exact not_ascii_of_range hl₂ h
    · exact isCont_not_ascii h

/-- One walk along the code points of a valid string `s` gives both closure facts: `s`, mapped
    byte-wise by a `g` that fixes every non-ASCII byte and keeps ASCII bytes ASCII, stays valid,
    and so does whatever valid string `b` follows it. -/
theorem validUtf8_map_append (g : UInt8 → UInt8) (hfix : ∀ c, ¬ c < 128 → g c = c)
    (hlo : ∀ c, c < 128 → g c < 128) (s b : List UInt8) (hs : validUtf8 s = true)
    (hb : validUtf8 b = true) : validUtf8 (s.map g ++ b) = true := by
  fun_induction validUtf8 s with
  | case1 => exact hb
  | case2 b0 r0 h ih =>
    rw [List.map_cons, List.cons_append, validUtf8_cons]; simp only [hlo b0 h, if_true]; exact ih hs
  | case3 b0 h1 h2 b1 r1 ih =>
    simp only [Bool.and_eq_true] at hs
    rw [List.map_cons, List.map_cons, hfix b0 h1, hfix b1 (isCont_not_ascii hs.1), List.cons_append,
      List.cons_append, validUtf8_cons]
    simp only [h1, h2, if_true, if_false, Bool.and_eq_true]
    exact ⟨hs.1, ih hs.2⟩
  | case4 b0 h1 h2 => cases hs
  | case5 b0 h1 h2 h3 b1 b2 r2 ih =>
    simp only [Bool.and_eq_true] at hs
    have hb1 : ¬ b1 < 128 := second_byte_not_ascii (by decide) (by decide) hs.1.1
    rw [List.map_cons, List.map_cons, List.map_cons, hfix b0 h1, hfix b1 hb1,
      hfix b2 (isCont_not_ascii hs.1.2), List.cons_append, List.cons_append, List.cons_append,
      validUtf8_cons]
    simp only [h1, h2, h3, if_true, if_false, Bool.false_eq_true, Bool.and_eq_true]
    exact ⟨hs.1, ih hs.2⟩
  | case6 b0 r0 h1 h2 h3 hr => cases hs
  | case7 b0 h1 h2 h3 h4 b1 b2 b3 r3 ih =>
    simp only [Bool.and_eq_true] at hs
    have hb1 : ¬ b1 < 128 := second_byte_not_ascii (by decide) (by decide) hs.1.1.1
    rw [List.map_cons, List.map_cons, List.map_cons, List.map_cons, hfix b0 h1, hfix b1 hb1,
      hfix b2 (isCont_not_ascii hs.1.1.2), hfix b3 (isCont_not_ascii hs.1.2), List.cons_append, List.cons_append,
      List.cons_append, List.cons_append, validUtf8_cons]
    simp only [h1, h2, h3, h4, if_true, if_false, Bool.false_eq_true, Bool.and_eq_true]
    exact ⟨hs.1, ih hs.2⟩
  | case8 b0 r0 h1 h2 h3 h4 hr => cases hs
  | case9 b0 r0 h1 h2 h3 h4 => cases hs

theorem validUtf8_append (a b : List UInt8) (ha : validUtf8 a = true) (hb : validUtf8 b = true) :
    validUtf8 (a ++ b) = true := by
  simpa using validUtf8_map_append id (fun _ _ => rfl) (fun _ h => h) a b ha hb

theorem validUtf8_map (g : UInt8 → UInt8) (hfix : ∀ c, ¬ c < 128 → g c = c)
    (hlo : ∀ c, c < 128 → g c < 128) (s : List UInt8) (hs : validUtf8 s = true) :
    validUtf8 (s.map g) = true := by
  simpa using validUtf8_map_append g hfix hlo s [] hs rfl

theorem validUtf8_sanitize {s : List UInt8} (hs : validUtf8 s = true) :
    validUtf8 (sanitize s) = true := by
  unfold sanitize
  apply validUtf8_map _ _ _ s hs
  · intro c hc
    have : c ≠ 13 ∧ c ≠ 10 := by
      constructor <;> (intro h; subst h; exact hc (by decide))
    simp [this.1, this.2]
  · intro c hc
    split
    · decide
    · exact hc

theorem sanitize_no_cr (s : List UInt8) : ∀ c ∈ sanitize s, c ≠ 13 := by
  intro c hc
  unfold sanitize at hc
  simp only [List.mem_map] at hc
  obtain ⟨a, _, rfl⟩ := hc
  split
  · decide
  · rename_i h; intro h2; exact h (Or.inl h2)

end TcVerif.Resp
