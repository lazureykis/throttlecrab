/-
  Refinement of the three concrete stores to the abstract expiring map (C06).
  Both writes of the `Store` trait are one conditional write (`StoreOps.put`): insert if `get` shows
  the expected value.  A concrete store's write is the abstract map's write on the store's table
  after the cleanup the write may trigger (`AnyStore.writeTable`), and a sweep at `now` changes
  nothing that is visible at `now` or later (`Sim`).
-/
import TcVerif.Lemmas.Data
import TcVerif.Lemmas.Loop
namespace TcVerif
open Data

theorem AMap.put_eq (a : AMap) (k : Key) (tv : Option Int) (new ttl now : Int) :
    AMap.ops.put a k tv new ttl now =
      (⟨if a.data.get k now = tv then insert a.data k new (now + ttl) else a.data⟩,
       decide (a.data.get k now = tv)) := by
  cases tv with
  | none =>
    simp only [StoreOps.put, AMap.ops, setnx_eq, get_eq_live]
    cases live a.data now k <;> rfl
  | some old =>
    simp only [StoreOps.put, AMap.ops, cas_eq, get_eq_live]
    cases live a.data now k with
    | none => rfl
    | some p => by_cases hc : p.1 = old <;> simp [hc]

theorem AMap.mem_put {a : AMap} {k : Key} {tv : Option Int} {new ttl now : Int} {e : Entry}
    (h : e ∈ (AMap.ops.put a k tv new ttl now).1.data) : e.key = k ∨ e ∈ a.data := by
  rw [AMap.put_eq] at h
  split at h
  · exact mem_insert h
  · exact Or.inr h

/-- the concrete table `c` and the abstract map's table `a` show the same entries at `now`, hence
    (`sim_mono`) at every later time.  Unique keys are asked of `c` alone: it is the side that gets
    swept, and only with unique keys does a sweep hide nothing (`find` shows a key's first entry, and
    removing an expired one could uncover a second). -/
def Sim (now : Int) (c a : Data) : Prop := NodupKeys c ∧ ∀ k, live c now k = live a now k

theorem Sim.nodup {now : Int} {c a : Data} (hs : Sim now c a) : NodupKeys c := hs.1

theorem Sim.live_eq {now : Int} {c a : Data} (hs : Sim now c a) (k : Key) : live c now k = live a now k := hs.2 k

theorem sim_refl {now : Int} {d : Data} (h : NodupKeys d) : Sim now d d := ⟨h, fun _ => rfl⟩

theorem sim_mono {now now' : Int} {c a : Data} (h : now ≤ now') (hs : Sim now c a) : Sim now' c a := by
  refine ⟨hs.nodup, fun k => ?_⟩
  rw [live_of_le c k h, live_of_le a k h, hs.live_eq k]

theorem sim_sweep {now t : Int} {c a : Data} (ht : t ≤ now) (hs : Sim now c a) : Sim now (sweep c t) a := by
  refine ⟨nodup_sweep t hs.nodup, fun k => ?_⟩
  rw [live_sweep k hs.nodup ht, hs.live_eq k]

theorem sim_get {now : Int} {c a : Data} (hs : Sim now c a) (k : Key) : get c k now = get a k now := by
  rw [get_eq_live, get_eq_live, hs.live_eq k]

theorem sim_insert {now : Int} {c a : Data} (hs : Sim now c a) (k : Key) (v x : Int) :
    Sim now (insert c k v x) (insert a k v x) := by
  refine ⟨nodup_insert k v x hs.nodup, fun k' => ?_⟩
  rw [live_insert, live_insert, hs.live_eq k']

theorem sim_put {now : Int} {c a : Data} (hs : Sim now c a) (k : Key) (tv : Option Int) (new ttl : Int) :
    (AMap.ops.put ⟨c⟩ k tv new ttl now).2 = (AMap.ops.put ⟨a⟩ k tv new ttl now).2 ∧
    Sim now (AMap.ops.put ⟨c⟩ k tv new ttl now).1.data (AMap.ops.put ⟨a⟩ k tv new ttl now).1.data := by
  rw [AMap.put_eq, AMap.put_eq, sim_get hs k]
  refine ⟨rfl, ?_⟩
  dsimp only
  split
  · exact sim_insert hs k new (now + ttl)
  · exact hs

def AnyStore.writeTable : AnyStore → Int → Data
  | .amap s, _ => s.data
  | .periodic s, now => (s.maybeClean now).data
  | .adaptive s, now => (s.maybeClean now).data
  | .prob s, now => (s.maybeCleanup now).data

theorem AnyStore.writeTable_cases (st : AnyStore) (now : Int) :
    st.writeTable now = st.data ∨ st.writeTable now = st.data.sweep now := by
  cases st with
  | amap s => exact Or.inl rfl
  | periodic s =>
    simp only [writeTable, Periodic.maybeClean]
    split
    · exact Or.inr rfl
    · exact Or.inl rfl
  | adaptive s =>
    simp only [writeTable, Adaptive.maybeClean]
    split
    · exact Or.inr rfl
    · exact Or.inl rfl
  | prob s =>
    simp only [writeTable, Prob.maybeCleanup]
    split
    · exact Or.inr rfl
    · exact Or.inl rfl

theorem anyStore_put (st : AnyStore) (k : Key) (tv : Option Int) (new ttl now : Int) :
    (AnyStore.ops.put st k tv new ttl now).2 = (AMap.ops.put ⟨st.writeTable now⟩ k tv new ttl now).2 ∧
    (AnyStore.ops.put st k tv new ttl now).1.data = (AMap.ops.put ⟨st.writeTable now⟩ k tv new ttl now).1.data := by
  cases st <;> cases tv <;> exact ⟨rfl, rfl⟩

theorem anyStore_get (st : AnyStore) (k : Key) (now : Int) :
    AnyStore.ops.get st k now = Data.get st.data k now := by
  cases st <;> rfl

theorem sim_writeTable {now : Int} {st : AnyStore} {a : Data} (hs : Sim now st.data a) :
    Sim now (st.writeTable now) a := by
  rcases st.writeTable_cases now with h | h <;> rw [h]
  · exact hs
  · exact sim_sweep (Int.le_refl now) hs

/-- `Sim` between a store's table and the abstract map; the store's kind and scheduling state are free -/
def SimStore (now : Int) (st : AnyStore) (a : AMap) : Prop := Sim now st.data a.data

theorem simStore_fresh (st : AnyStore) (h : st.data = []) (t0 : Int) : SimStore t0 st AMap.empty := by
  unfold SimStore
  rw [h]
  exact sim_refl trivial

theorem simStore_get {now : Int} {st : AnyStore} {a : AMap} (hs : SimStore now st a) (k : Key) :
    AnyStore.ops.get st k now = AMap.ops.get a k now := by
  rw [anyStore_get]
  exact sim_get hs k

theorem simStore_put {now : Int} {st : AnyStore} {a : AMap} (hs : SimStore now st a)
    (k : Key) (tv : Option Int) (new ttl : Int) :
    (AnyStore.ops.put st k tv new ttl now).2 = (AMap.ops.put a k tv new ttl now).2 ∧
    SimStore now (AnyStore.ops.put st k tv new ttl now).1 (AMap.ops.put a k tv new ttl now).1 := by
  obtain ⟨h1, h2⟩ := anyStore_put st k tv new ttl now
  unfold SimStore
  rw [h1, h2]
  exact sim_put (sim_writeTable hs) k tv new ttl

/-- whatever sweep the write triggers first, the table it acts on shows at `now` what was just read -/
theorem anyStore_put_succeeds (st : AnyStore) (hd : NodupKeys st.data) (k : Key) (new ttl now : Int) :
    (AnyStore.ops.put st k (AnyStore.ops.get st k now) new ttl now).2 = true := by
  rw [(anyStore_put st k _ new ttl now).1, AMap.put_eq, anyStore_get,
    sim_get (sim_writeTable (sim_refl hd)) k]
  exact decide_eq_true rfl

theorem anyStore_put_nodup (st : AnyStore) (hd : NodupKeys st.data) (k : Key) (tv : Option Int)
    (new ttl now : Int) : NodupKeys (AnyStore.ops.put st k tv new ttl now).1.data :=
  (simStore_put (a := ⟨st.data⟩) (sim_refl hd) k tv new ttl).2.nodup

theorem applyOp_nodup (st : AnyStore) (hd : NodupKeys st.data) (op : SOp) :
    NodupKeys (applyOp AnyStore.ops st op).1.data := by
  cases op with
  | get k now => exact hd
  | cas k old new ttl now => exact anyStore_put_nodup st hd k (some old) new ttl now
  | setnx k v ttl now => exact anyStore_put_nodup st hd k none v ttl now

end TcVerif
