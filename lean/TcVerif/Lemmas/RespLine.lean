/-
  The CRLF line scanner.  `findCRLF d = some i` exactly when `d = p ++ CR LF ++ y` with `|p| = i`
  and no CR LF inside `p`; everything about `readLine` is list reasoning on that decomposition.
  `DecidedBy` is the notion the decoder lemmas are built on.
-/
import TcVerif.Model.Resp

namespace TcVerif.Resp

/-- `dec d` rests on the first `n` bytes of `d` only: every input that starts with them gets the
    same answer.  Both "more bytes arrive" (`d ++ x`) and "the rest is cut off" (`d.take k`)
    are such inputs. -/
def DecidedBy {R : Type} (dec : List UInt8 → R) (d : List UInt8) (n : Nat) : Prop :=
  n ≤ d.length ∧ ∀ d', d.take n <+: d' → dec d' = dec d

namespace DecidedBy
variable {R : Type} {dec : List UInt8 → R} {d : List UInt8} {n : Nat}

theorem append (h : DecidedBy dec d n) (x : List UInt8) : dec (d ++ x) = dec d :=
  h.2 _ ((List.take_prefix n d).trans (List.prefix_append d x))

theorem take (h : DecidedBy dec d n) {k : Nat} (hk : n ≤ k) : dec (d.take k) = dec d :=
  h.2 _ (List.take_prefix_take_left hk)

theorem mono (h : DecidedBy dec d n) {m : Nat} (hnm : n ≤ m) (hm : m ≤ d.length) :
    DecidedBy dec d m :=
  ⟨hm, fun d' hd' => h.2 d' ((List.take_prefix_take_left hnm).trans hd')⟩

theorem drop {m k : Nat} (hm : m ≤ d.length) (h : DecidedBy dec (d.drop m) k) :
    DecidedBy (fun d => dec (d.drop m)) d (m + k) := by
  refine ⟨Nat.add_le_of_le_sub' hm (List.length_drop ▸ h.1), fun d' hd' => h.2 _ ?_⟩
  obtain ⟨z, rfl⟩ := hd'
  rw [List.drop_append_of_le_length
      (by rw [List.length_take]; exact Nat.le_min.mpr ⟨Nat.le_add_right m k, hm⟩),
    List.drop_take, Nat.add_sub_cancel_left]
  exact List.prefix_append _ _

end DecidedBy

theorem decidedBy_take {d : List UInt8} {k : Nat} (h : k ≤ d.length) :
    DecidedBy (List.take k) d k :=
  ⟨h, fun d' hd' => by
    obtain ⟨z, rfl⟩ := hd'
    rw [List.take_left' (List.length_take_of_le h)]⟩

theorem findCRLF_nil : findCRLF [] = none := rfl
theorem findCRLF_single (a : UInt8) : findCRLF [a] = none := rfl

theorem findCRLF_cons (a : UInt8) (tl : List UInt8) :
    findCRLF (a :: tl) =
      if a = 13 ∧ tl.head? = some 10 then some 0 else (findCRLF tl).map (· + 1) := by
  cases tl with
  | nil => exact (if_neg fun h => nomatch h.2).symm
  | cons b r =>
    rw [findCRLF]
    simp only [List.head?_cons, Option.some.injEq]
    cases findCRLF (b :: r) <;> rfl

theorem head?_append_crlf (p y : List UInt8) :
    (p ++ 13 :: 10 :: y).head? = some 10 ↔ p.head? = some 10 := by
  cases p <;> simp

theorem findCRLF_eq_some {d : List UInt8} {i : Nat} (h : findCRLF d = some i) :
    ∃ p y, d = p ++ 13 :: 10 :: y ∧ p.length = i ∧ findCRLF p = none := by
  induction d generalizing i with
  | nil => cases h
  | cons a tl ih =>
    rw [findCRLF_cons] at h
    split at h
    · rename_i hc
      cases h
      obtain ⟨y, rfl⟩ := List.head?_eq_some_iff.mp hc.2
      exact ⟨[], y, by rw [hc.1]; rfl, rfl, rfl⟩
    · rename_i hc
      obtain ⟨j, hj, rfl⟩ := Option.map_eq_some_iff.mp h
      obtain ⟨p, y, rfl, rfl, hp⟩ := ih hj
      refine ⟨a :: p, y, rfl, rfl, ?_⟩
      rw [findCRLF_cons, hp, if_neg (by rwa [head?_append_crlf] at hc)]; rfl

theorem findCRLF_append_crlf (s x : List UInt8) (h : findCRLF s = none) :
    findCRLF (s ++ 13 :: 10 :: x) = some s.length := by
  induction s with
  | nil => simp [findCRLF_cons]
  | cons a s ih =>
    rw [findCRLF_cons] at h
    split at h
    · cases h
    · rename_i hc
      rw [List.cons_append, findCRLF_cons, if_neg (by rwa [head?_append_crlf]),
        ih (Option.map_eq_none_iff.mp h)]; rfl

theorem findCRLF_split : ∀ (d : List UInt8) (i : Nat), findCRLF d = some i →
    d = d.take i ++ 13 :: 10 :: d.drop (i + 2) := by
  intro d i h
  obtain ⟨p, y, rfl, rfl, -⟩ := findCRLF_eq_some h
  rw [List.take_left, ← List.drop_drop, List.drop_left]; rfl

theorem findCRLF_tail_none : ∀ (l : List UInt8), findCRLF l = none → findCRLF (l.drop 1) = none
  | [], _ => rfl
  | a :: tl, h => by
    rw [findCRLF_cons] at h
    split at h
    · cases h
    · exact Option.map_eq_none_iff.mp h

theorem noCRLF_iff {l : List UInt8} : noCRLF l = true ↔ findCRLF l = none := by
  unfold noCRLF; cases findCRLF l <;> simp

theorem noCRLF_no_cr_append : ∀ (p l : List UInt8), (∀ c ∈ p, c ≠ 13) → noCRLF l = true →
    noCRLF (p ++ l) = true
  | [], l, _, h => h
  | c :: cs, l, hp, h => by
    have ih := noCRLF_no_cr_append cs l (fun c' hc' => hp c' (by simp [hc'])) h
    rw [noCRLF_iff] at ih ⊢
    rw [List.cons_append, findCRLF_cons, if_neg fun hc => hp c (by simp) hc.1, ih]; rfl

theorem noCRLF_no_cr (l : List UInt8) (h : ∀ c ∈ l, c ≠ 13) : noCRLF l = true := by
  simpa using noCRLF_no_cr_append l [] h rfl

theorem readLine_eq_some {d l : List UInt8} {n : Nat} :
    readLine d = some (l, n) ↔
      ∃ y, d = l ++ 13 :: 10 :: y ∧ n = l.length + 2 ∧ findCRLF l = none := by
  unfold readLine
  constructor
  · intro h
    split at h
    · rename_i i hi
      obtain ⟨p, y, rfl, rfl, hp⟩ := findCRLF_eq_some hi
      rw [List.take_left] at h
      cases h
      exact ⟨y, rfl, rfl, hp⟩
    · cases h
  · rintro ⟨y, rfl, rfl, hl⟩
    simp only [findCRLF_append_crlf l y hl, List.take_left]

theorem readLine_eq_none {d : List UInt8} (h : readLine d = none) : findCRLF d = none := by
  unfold readLine at h
  split at h
  · cases h
  · assumption

theorem readLine_bound {d l : List UInt8} {n : Nat} (h : readLine d = some (l, n)) :
    2 ≤ n ∧ n ≤ d.length := by
  obtain ⟨y, rfl, rfl, -⟩ := readLine_eq_some.mp h
  exact ⟨Nat.le_add_left 2 _, by simp only [List.length_append, List.length_cons]; omega⟩

theorem readLine_decided {d l : List UInt8} {n : Nat} (h : readLine d = some (l, n)) :
    DecidedBy readLine d n := by
  refine ⟨(readLine_bound h).2, fun d' hd' => ?_⟩
  rw [h]
  obtain ⟨y, rfl, rfl, hl⟩ := readLine_eq_some.mp h
  obtain ⟨z, rfl⟩ := hd'
  have e : (l ++ 13 :: 10 :: y).take (l.length + 2) = l ++ [13, 10] := by
    rw [List.take_append, List.take_of_length_le (Nat.le_add_right _ _)]; simp
  exact readLine_eq_some.mpr ⟨z, by rw [e]; simp, rfl, hl⟩

/-- `line[1..]` is in bounds whenever the frame starts with a type byte other than CR -/
theorem readLine_line_nonempty {t : UInt8} {r l : List UInt8} {n : Nat} (ht : t ≠ 13)
    (h : readLine (t :: r) = some (l, n)) : 1 ≤ l.length := by
  obtain ⟨y, e, -, -⟩ := readLine_eq_some.mp h
  cases l with
  | nil => cases e; exact absurd rfl ht
  | cons _ _ => simp

theorem readLine_line_noCRLF {d l : List UInt8} {n : Nat} (h : readLine d = some (l, n)) :
    noCRLF (l.drop 1) = true := by
  obtain ⟨y, -, -, hl⟩ := readLine_eq_some.mp h
  exact noCRLF_iff.mpr (findCRLF_tail_none l hl)

theorem readLine_frame (t : UInt8) (s x : List UInt8) (ht : t ≠ 13) (hs : noCRLF s = true) :
    readLine (t :: (s ++ crlf) ++ x) = some (t :: s, s.length + 3) :=
  readLine_eq_some.mpr
    ⟨x, by simp [crlf], rfl, by rw [findCRLF_cons, if_neg fun h => ht h.1, noCRLF_iff.mp hs]; rfl⟩

end TcVerif.Resp
