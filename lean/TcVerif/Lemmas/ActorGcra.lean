/-
  The GCRA model as the actor's limiter.  Its sequential run is `runTagged`, the history runner the
  limiter theorems C01–C06 are stated about (`seqRun_gcra`).  The sequential fact behind C09's burst
  corollary: on a fresh key, `N` identical unit requests at one instant are allowed exactly
  `min N B` times (any store, limits in the normal domain D of `Lemmas/Arith.lean`) - a history on
  one key runs as on that key's cell, the cell's run is the ideal bucket's (`cell_run_bucket`), and
  for the bucket it is a count.
-/
import TcVerif.Model.ActorDriver
import TcVerif.Lemmas.History
namespace TcVerif.Actor

theorem seqRun_gcra (st : AnyStore) (rs : List Req) :
    seqRun gcraLimiter st rs = some (stateAfter AnyStore.ops emissionInterval st rs,
      (runTagged AnyStore.ops emissionInterval st rs).map (·.2)) := by
  induction rs generalizing st with
  | nil => rfl
  | cons r rs ih =>
    have hstep : gcraLimiter.step st r =
        some ((rateLimitE AnyStore.ops st (emissionInterval r.count r.period) r).1,
          (rateLimitE AnyStore.ops st (emissionInterval r.count r.period) r).2.1) := rfl
    simp only [seqRun, hstep, ih, stateAfter, runTagged, List.map_cons]

/-- at one instant nothing is refilled between requests: of `n` unit requests on a bucket that holds
    `m` tokens the first `m` are admitted -/
theorem runFull_units (B E t : Int) (hE : 1 ≤ E) (n m : Nat) (b : Option Bucket)
    (hb : Bucket.refill (B * E) b t = m * E) :
    ((Bucket.runFull B E b (List.replicate n (t, 1))).filter (·.1)).length = min n m := by
  induction n generalizing b m with
  | zero => exact (Nat.zero_min m).symm
  | succ n ih =>
    have hle : m * E ≤ B * E := hb ▸ Bucket.refill_le (B * E) b t
    -- within the instant the level a step leaves is the level the next one finds
    have hnext : ∀ v, v ≤ B * E → Bucket.refill (B * E) (some ⟨v, t⟩) t = v := fun v hv => by
      simp only [Bucket.refill_some, Int.sub_self, Int.add_zero]
      exact Int.min_eq_right hv
    simp only [List.replicate_succ, Bucket.runFull, Bucket.step_eq, lvlAfter, hb, List.filter_cons]
    cases m with
    | zero =>
      have h0 : ¬ 1 * E ≤ (0 : Nat) * E := by omega
      simp only [h0, decide_false, if_false, Bool.false_eq_true]
      rw [ih 0 _ (hnext _ hle), Nat.min_zero, Nat.min_zero]
    | succ m =>
      rw [Int.natCast_succ, Int.add_mul] at hle ⊢
      have h1 : 1 * E ≤ m * E + 1 * E :=
        Int.le_add_of_nonneg_left (Int.mul_nonneg (Int.natCast_nonneg m) (by omega))
      simp only [h1, decide_true, if_true, List.length_cons, Int.add_sub_cancel]
      rw [ih m _ (hnext _ (by omega)), Nat.succ_min_succ]

theorem gcra_unit_burst (r0 : Req) (E B : Int) (N : Nat) (st : AnyStore) (hst : st.data = [])
    (hq : r0.qty = 1) (hei : emissionInterval r0.count r0.period = E)
    (hstep : StepD E B r0.now r0) :
    (((runTagged AnyStore.ops emissionInterval st (List.replicate N r0)).map (·.2)).filter
      Outcome.allowed).length = min N B.toNat := by
  have hrep : ∀ n, MonotoneFrom r0.now (List.replicate n r0) ∧
      FixedD emissionInterval E B r0.now (List.replicate n r0) := by
    intro n
    induction n with
    | zero => exact ⟨trivial, trivial⟩
    | succ n ih => exact ⟨⟨Int.le_refl _, ih.1⟩, hstep, hei, ih.2⟩
  have hrun := (cell_run_bucket _ r0.now none none (hrep N).2 (rel_fresh E B r0.now)).1
  rw [← runTagged_single_key emissionInterval r0.key _ r0.now st hst (hrep N).1
      (fun r hr => by rw [List.eq_of_mem_replicate hr]),
    show (List.replicate N r0).map reqTQ = List.replicate N (r0.now, 1) by simp [reqTQ, hq]] at hrun
  rw [← runFull_units B E r0.now hstep.dom.hE N B.toNat none
      (by rw [Int.toNat_of_nonneg (by have := hstep.dom.hB; omega)]; rfl), ← hrun]
  simp only [List.filter_map, List.length_map]
  -- the two filters test the same, `fun p => p.2.allowed`, composed in two ways
  rfl

end TcVerif.Actor
