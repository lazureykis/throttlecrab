/-
  Structure of the decoder.  One contract carries the file: a decoder is `Local f` if each of its
  decided answers (a value or an error) rests on a prefix of the input (`DecidedBy`), and a value
  reports exactly that prefix as consumed, is within the size limits and nests at most `f` deep.
  Each layer is shown local from the layers under it; consumed bounds, stability under more input
  and under truncation (`DecOK`) and the limits on decoded values are read off at the end.
-/
import TcVerif.Lemmas.RespLine
import TcVerif.Lemmas.RespInt

namespace TcVerif.Resp

open TcVerif.Gen

/-- `1 ≤ n`: an answer rests on the type byte at least.  So a decoder that agrees with `dec` on
    the inputs that begin with that byte inherits the contract (`LocalAt.congr_head`: from the
    decoder of one frame kind to `decode`), and a value consumes something: the connection loop
    advances. -/
def LocalAt (f : Nat) (dec : List UInt8 → DecodeResult) (d : List UInt8) : Prop :=
  dec d ≠ .incomplete → ∃ n, 1 ≤ n ∧ DecidedBy dec d n ∧
    ∀ v m, dec d = .ok v m → m = n ∧ sizesOk v = true ∧ depth v ≤ f

/-- the contract of the header comment, on every input; `f` bounds the nesting of the values -/
def Local (f : Nat) (dec : List UInt8 → DecodeResult) : Prop := ∀ d, LocalAt f dec d

structure DecOK (dec : List UInt8 → DecodeResult) : Prop where
  bound : ∀ d v n, dec d = .ok v n → 1 ≤ n ∧ n ≤ d.length
  append : ∀ d x, dec d ≠ .incomplete → dec (d ++ x) = dec d
  take : ∀ d v n k, dec d = .ok v n → n ≤ k → dec (d.take k) = .ok v n

theorem Local.decOK {f dec} (h : Local f dec) : DecOK dec where
  bound d v n hd := by
    obtain ⟨m, h1, hm, hc⟩ := h d (by rw [hd]; simp)
    cases (hc v n hd).1
    exact ⟨h1, hm.1⟩
  append d x hd := by
    obtain ⟨m, -, hm, -⟩ := h d hd
    exact hm.append x
  take d v n k hd hk := by
    obtain ⟨m, -, hm, hc⟩ := h d (by rw [hd]; simp)
    cases (hc v n hd).1
    rw [hm.take hk, hd]

theorem cons_of_take_prefix {t : UInt8} {r d' : List UInt8} {n : Nat} (hn : 1 ≤ n)
    (h : (t :: r).take n <+: d') : ∃ r', d' = t :: r' := by
  cases n with
  | zero => cases hn
  | succ k => obtain ⟨z, rfl⟩ := h; exact ⟨_, rfl⟩

theorem LocalAt.congr_head {f} {dec dec' : List UInt8 → DecodeResult} {t : UInt8} {r : List UInt8}
    (h : LocalAt f dec' (t :: r)) (e : ∀ r, dec (t :: r) = dec' (t :: r)) :
    LocalAt f dec (t :: r) := by
  intro hd
  rw [e] at hd
  obtain ⟨n, hn, hdn, hc⟩ := h hd
  refine ⟨n, hn, ⟨hdn.1, fun d' hd' => ?_⟩, by rw [e]; exact hc⟩
  obtain ⟨r', rfl⟩ := cons_of_take_prefix hn hd'
  rw [e, e]; exact hdn.2 _ hd'

theorem line_local {f} {dec : List UInt8 → DecodeResult} {g : List UInt8 → Nat → DecodeResult}
    (hdec : ∀ d, dec d = match readLine d with | none => .incomplete | some (l, n) => g l n)
    (hg : ∀ l n v m, noCRLF (l.drop 1) = true → g l n = .ok v m →
      m = n ∧ sizesOk v = true ∧ depth v ≤ f) : Local f dec := by
  intro d h
  rw [hdec] at h
  split at h
  · exact absurd rfl h
  · rename_i l n hl
    have hb := readLine_bound hl
    refine ⟨n, Nat.le_of_succ_le hb.1, ⟨hb.2, fun d' hd' => ?_⟩, fun v m hv => ?_⟩
    · rw [hdec, hdec, (readLine_decided hl).2 d' hd']
    · rw [hdec, hl] at hv
      exact hg l n v m (readLine_line_noCRLF hl) hv

theorem decodeLine_local {f} (mk : List UInt8 → Value)
    (hmk : ∀ s, sizesOk (mk s) = (validUtf8 s && noCRLF s) ∧ depth (mk s) = 0) :
    Local f (decodeLine mk) :=
  line_local (fun _ => rfl) fun l n v m hc h => by
    split at h <;> cases h
    rename_i hv
    exact ⟨rfl, by rw [(hmk _).1, hv, hc]; rfl, by rw [(hmk _).2]; exact Nat.zero_le _⟩

theorem decodeInt_local {f} : Local f decodeInt :=
  line_local (fun _ => rfl) fun l n v m _ h => by
    split at h <;> cases h
    exact ⟨rfl, parseHdrInt_range ‹_›, Nat.zero_le _⟩

theorem header_local {mx d} (h : header mx d ≠ .incomplete) :
    ∃ n, 1 ≤ n ∧ DecidedBy (header mx) d n ∧ (∀ m, header mx d = .null m → m = n) ∧
      ∀ m k, header mx d = .len m k → m = n ∧ k ≤ mx := by
  -- whatever the line says, it is the line that decides
  have line {l n} (hl : readLine d = some (l, n)) : 1 ≤ n ∧ DecidedBy (header mx) d n :=
    ⟨Nat.le_of_succ_le (readLine_bound hl).1, (readLine_bound hl).2, fun d' hd' => by
      unfold header; rw [(readLine_decided hl).2 d' hd']⟩
  revert h
  fun_cases header mx d with
  | case1 => exact fun h => absurd rfl h
  | case2 l n hl | case4 l n hl => exact fun _ => ⟨n, (line hl).1, (line hl).2, nofun, nofun⟩
  | case3 l n hl =>
    exact fun _ => ⟨n, (line hl).1, (line hl).2, fun m hm => by cases hm; rfl, nofun⟩
  | case5 l n hl k _ _ hk =>
    have hle : k.toNat ≤ mx := Int.toNat_le.mpr (Int.not_lt.mp fun h => hk (.inr h))
    exact fun _ =>
      ⟨n, (line hl).1, (line hl).2, nofun, fun m j hm => by cases hm; exact ⟨rfl, hle⟩⟩

theorem decodeBulk_local {f} : Local f decodeBulk := by
  intro d h
  unfold decodeBulk at h
  have hh : header RESP_MAX_BULK d ≠ .incomplete := by
    intro e; rw [e] at h; exact h rfl
  obtain ⟨n, hn, hdn, hnull, hlen⟩ := header_local hh
  cases hd : header RESP_MAX_BULK d with
  | incomplete => exact absurd hd hh
  | len m l =>
    cases (hlen m l hd).1
    rw [hd] at h
    simp only at h
    by_cases hfull : d.length < n + l + 2
    · rw [if_pos hfull] at h; exact absurd rfl h
    · have hN : n + l + 2 ≤ d.length := Nat.le_of_not_lt hfull
      have hl : l ≤ (d.drop n).length := by rw [List.length_drop]; omega
      have hpay := ((decidedBy_take hl).drop hdn.1).mono (Nat.le_add_right _ 2) hN
      -- `+ 2`: the two bytes after the payload are never read, but the length test wants them there
      refine ⟨n + l + 2, Nat.succ_pos _, ⟨hN, fun d' hd' => ?_⟩, fun v k hv => ?_⟩
      · have hl' := hd'.length_le
        rw [List.length_take, Nat.min_eq_left hN] at hl'
        have e : (d'.drop n).take l = (d.drop n).take l := hpay.2 d' hd'
        unfold decodeBulk
        rw [(hdn.mono (by omega) hN).2 d' hd', hd]
        simp only
        rw [if_neg (Nat.not_lt_of_le hl'), if_neg hfull, e]
      · unfold decodeBulk at hv
        rw [hd] at hv
        simp only [if_neg hfull] at hv
        split at hv <;> cases hv
        rename_i hvalid
        have := (hlen n l hd).2
        refine ⟨rfl, ?_, Nat.zero_le _⟩
        simp only [sizesOk, hvalid, Bool.true_and, decide_eq_true_eq, List.length_take]
        exact Nat.le_trans (Nat.min_le_left _ _) this
  | _ =>
    -- error and null marker: the header line alone decides
    refine ⟨n, hn, ⟨hdn.1, fun d' hd' => ?_⟩, fun v m hv => ?_⟩
    · unfold decodeBulk; rw [hdn.2 d' hd', hd]
    · unfold decodeBulk at hv
      rw [hd] at hv
      cases hv <;> exact ⟨hnull _ hd, rfl, Nat.zero_le _⟩

theorem decodeElemsWith_local {f dec} (hd : Local f dec) (c : Nat) :
    ∀ (d : List UInt8), decodeElemsWith dec c d ≠ .incomplete →
      ∃ n, DecidedBy (decodeElemsWith dec c) d n ∧
        ∀ vs m, decodeElemsWith dec c d = .ok vs m →
          m = n ∧ vs.length = c ∧ sizesOkList vs = true ∧ depthList vs ≤ f := by
  induction c with
  | zero =>
    exact fun d _ => ⟨0, ⟨Nat.zero_le _, fun _ _ => rfl⟩, fun vs m h => by
      cases h; simp [sizesOkList, depthList]⟩
  | succ c ih =>
    intro d h
    simp only [decodeElemsWith] at h
    have h1 : dec d ≠ .incomplete := by
      intro e; rw [e] at h; exact h rfl
    obtain ⟨n, -, hdn, hcn⟩ := hd d h1
    cases hv : dec d with
    | incomplete => exact absurd hv h1
    | error =>
      refine ⟨n, ⟨hdn.1, fun d' hd' => ?_⟩, fun vs m hvs => ?_⟩
      · simp only [decodeElemsWith, hdn.2 d' hd', hv]
      · simp only [decodeElemsWith, hv] at hvs
        cases hvs
    | ok v m =>
      have ⟨e, hsv, hdv⟩ := hcn v m hv
      cases e
      rw [hv] at h
      simp only at h
      have h2 : decodeElemsWith dec c (d.drop n) ≠ .incomplete := by
        intro e; rw [e] at h; exact h rfl
      obtain ⟨k, hdk, hck⟩ := ih (d.drop n) h2
      have hrest := hdk.drop hdn.1
      refine ⟨n + k, ⟨hrest.1, fun d' hd' => ?_⟩, fun vs j hvs => ?_⟩
      · simp only [decodeElemsWith, (hdn.mono (Nat.le_add_right n k) hrest.1).2 d' hd', hv,
          hrest.2 d' hd']
      · simp only [decodeElemsWith, hv] at hvs
        split at hvs <;> cases hvs
        rename_i ws i hws
        obtain ⟨rfl, rfl, hs, hdp⟩ := hck ws i hws
        refine ⟨rfl, rfl, ?_, ?_⟩
        · simp only [sizesOkList, hsv, hs, Bool.and_self]
        · simp only [depthList]; exact Nat.max_le.mpr ⟨hdv, hdp⟩

theorem decodeElemsWith_bound {f dec} (hd : Local f dec) {c : Nat} {d : List UInt8}
    {vs : List Value} {m : Nat} (h : decodeElemsWith dec c d = .ok vs m) :
    m ≤ d.length ∧ vs.length = c := by
  obtain ⟨n, hdn, hc⟩ := decodeElemsWith_local hd c d (by rw [h]; simp)
  obtain ⟨rfl, h2, -⟩ := hc vs m h
  exact ⟨hdn.1, h2⟩

/-- what `decode` does with a frame that is not an array (`decode_scalar`); named because the parser
    with Rust's depth counter does the same (`decodeD_scalar`), so the two need comparing on arrays
    only -/
def decodeScalar (t : UInt8) : List UInt8 → DecodeResult :=
  if t = 43 then decodeLine .simple
  else if t = 45 then decodeLine .error
  else if t = 58 then decodeInt
  else if t = 36 then decodeBulk
  else fun _ => .error

theorem decode_nil (fuel : Nat) : decode fuel [] = .incomplete := by
  cases fuel <;> rfl

theorem decode_scalar (fuel : Nat) (t : UInt8) (r : List UInt8) (ht : t ≠ 42) :
    decode fuel (t :: r) = decodeScalar t (t :: r) := by
  rw [decode.eq_def, decodeScalar]
  simp only [ht, if_false, apply_ite (fun g : List UInt8 → DecodeResult => g (t :: r))]

theorem decode_simple (fuel : Nat) (r : List UInt8) :
    decode fuel (43 :: r) = decodeLine .simple (43 :: r) :=
  decode_scalar fuel 43 r (by decide)

theorem decode_error (fuel : Nat) (r : List UInt8) :
    decode fuel (45 :: r) = decodeLine .error (45 :: r) :=
  decode_scalar fuel 45 r (by decide)

theorem decode_int (fuel : Nat) (r : List UInt8) : decode fuel (58 :: r) = decodeInt (58 :: r) :=
  decode_scalar fuel 58 r (by decide)

theorem decode_bulk (fuel : Nat) (r : List UInt8) : decode fuel (36 :: r) = decodeBulk (36 :: r) :=
  decode_scalar fuel 36 r (by decide)

theorem decode_array_zero (r : List UInt8) : decode 0 (42 :: r) = .error := rfl

theorem decode_array_succ (f : Nat) (r : List UInt8) :
    decode (f + 1) (42 :: r) =
      match header RESP_MAX_ARRAY (42 :: r) with
      | .incomplete => .incomplete
      | .error => .error
      | .null n => .ok (.array []) n
      | .len n cnt =>
        match decodeElemsWith (decode f) cnt ((42 :: r).drop n) with
        | .ok vs m => .ok (.array vs) (n + m)
        | .incomplete => .incomplete
        | .error => .error := by
  rw [decode.eq_def]; rfl

theorem decodeElems_zero (fuel : Nat) (d : List UInt8) : decodeElems fuel 0 d = .ok [] 0 := rfl

theorem decodeElems_succ (fuel c : Nat) (d : List UInt8) :
    decodeElems fuel (c + 1) d =
      match decode fuel d with
      | .ok v m =>
        match decodeElems fuel c (d.drop m) with
        | .ok vs k => .ok (v :: vs) (m + k)
        | .incomplete => .incomplete
        | .error => .error
      | .incomplete => .incomplete
      | .error => .error := rfl

theorem localAt_error {f} (t : UInt8) (r : List UInt8) : LocalAt f (fun _ => .error) (t :: r) :=
  fun _ => ⟨1, Nat.le_refl 1, ⟨by simp, fun _ _ => rfl⟩, fun _ _ h => by cases h⟩

theorem decodeScalar_local {f} (t : UInt8) (r : List UInt8) :
    LocalAt f (decodeScalar t) (t :: r) := by
  unfold decodeScalar
  -- `by_cases` and `rw`, since `split` on this goal costs four times as much to check
  by_cases h1 : t = 43
  · rw [if_pos h1]; exact decodeLine_local _ (fun _ => ⟨rfl, rfl⟩) _
  rw [if_neg h1]
  by_cases h2 : t = 45
  · rw [if_pos h2]; exact decodeLine_local _ (fun _ => ⟨rfl, rfl⟩) _
  rw [if_neg h2]
  by_cases h3 : t = 58
  · rw [if_pos h3]; exact decodeInt_local _
  rw [if_neg h3]
  by_cases h4 : t = 36
  · rw [if_pos h4]; exact decodeBulk_local _
  · rw [if_neg h4]; exact localAt_error t r

theorem decode_array_local {f r} (ih : Local f (decode f)) :
    LocalAt (f + 1) (decode (f + 1)) (42 :: r) := by
  intro h
  rw [decode_array_succ f r] at h
  have hh : header RESP_MAX_ARRAY (42 :: r) ≠ .incomplete := by
    intro e; rw [e] at h; exact h rfl
  obtain ⟨n, hn, hdn, hnull, hlen⟩ := header_local hh
  cases hd : header RESP_MAX_ARRAY (42 :: r) with
  | incomplete => exact absurd hd hh
  | len m c =>
    cases (hlen m c hd).1
    rw [hd] at h
    simp only at h
    have h2 : decodeElemsWith (decode f) c ((42 :: r).drop n) ≠ .incomplete := by
      intro e; rw [e] at h; exact h rfl
    obtain ⟨k, hdk, hck⟩ := decodeElemsWith_local ih c _ h2
    have hrest := hdk.drop hdn.1
    have h1 : 1 ≤ n + k := Nat.le_trans hn (Nat.le_add_right n k)
    refine ⟨n + k, h1, ⟨hrest.1, fun d' hd' => ?_⟩, fun v j hv => ?_⟩
    · obtain ⟨r', rfl⟩ := cons_of_take_prefix h1 hd'
      rw [decode_array_succ f r, decode_array_succ f r',
        (hdn.mono (Nat.le_add_right n k) hrest.1).2 _ hd', hd]
      simp only [hrest.2 _ hd']
    · rw [decode_array_succ f r, hd] at hv
      simp only at hv
      split at hv <;> cases hv
      rename_i vs i hvs
      obtain ⟨rfl, hvl, hs, hdp⟩ := hck vs i hvs
      have := (hlen n c hd).2
      refine ⟨rfl, ?_, by simp only [depth]; omega⟩
      simp only [sizesOk, hs, Bool.and_true, decide_eq_true_eq]
      exact hvl ▸ this
  | _ =>
    refine ⟨n, hn, ⟨hdn.1, fun d' hd' => ?_⟩, fun v m hv => ?_⟩
    · obtain ⟨r', rfl⟩ := cons_of_take_prefix hn hd'
      rw [decode_array_succ f r, decode_array_succ f r', hdn.2 _ hd', hd]
    · rw [decode_array_succ f r, hd] at hv
      cases hv <;> exact ⟨hnull _ hd, rfl, Nat.le_add_left 1 f⟩

/-- only the array frame looks at the fuel -/
theorem local_of_array {fuel : Nat} (h : ∀ r, LocalAt fuel (decode fuel) (42 :: r)) :
    Local fuel (decode fuel) := by
  intro d
  cases d with
  | nil => exact fun h => absurd (decode_nil fuel) h
  | cons t r =>
    by_cases ht : t = 42
    · exact ht ▸ h r
    · exact (decodeScalar_local t r).congr_head fun r => decode_scalar fuel t r ht

theorem decode_local : ∀ fuel, Local fuel (decode fuel)
  | 0 => local_of_array fun r => (localAt_error 42 r).congr_head decode_array_zero
  | f + 1 => local_of_array fun _ => decode_array_local (decode_local f)

theorem decode_decOK (fuel : Nat) : DecOK (decode fuel) := (decode_local fuel).decOK

theorem decode_sizesOk_depth (fuel : Nat) (d : List UInt8) (v : Value) (n : Nat)
    (h : decode fuel d = .ok v n) : sizesOk v = true ∧ depth v ≤ fuel := by
  obtain ⟨_, -, -, hc⟩ := decode_local fuel d (by rw [h]; simp)
  exact (hc v n h).2

end TcVerif.Resp
