/-
  `escape_prometheus_label` against the label-value lexer: what one character is escaped to is an
  `Inert` block, and such blocks can be concatenated.
-/
import TcVerif.Model.Metrics

namespace TcVerif.Metrics

/-- characters that can neither end a label value, nor start an escape, nor break a line -/
def Plain (c : Char) : Prop := c ≠ '"' ∧ c ≠ '\\' ∧ c ≠ '\n' ∧ c ≠ '\r'

instance (c : Char) : Decidable (Plain c) := by unfold Plain; exact inferInstance

theorem hexDigit_plain : ∀ n, n < 16 → Plain (hexDigit n) := by decide

/- A string literal is `String.ofList [..]` to the unifier and to the kernel, so `String.toList_ofList`
reads its characters off for nothing.  Evaluating `toList` on it instead decodes the UTF-8 bytes one
by one, at a cost that grows with the square of the length. -/
theorem hexDigit_lower : ∀ n, n < 16 → hexDigit n ∈ "0123456789abcdef".toList := by
  rw [String.toList_ofList]
  decide +kernel

theorem lowByte_lt (c : Char) : lowByte c < 256 := by
  unfold lowByte; omega

theorem scanLabel_quote (rest : List Char) : scanLabel ('"' :: rest) = some ([], rest) := by
  simp [scanLabel, scanLabelAux]

theorem scanLabel_backslash (x : Char) (rest : List Char) :
    scanLabel ('\\' :: x :: rest) = (scanLabel rest).map (Prod.map (['\\', x] ++ ·) id) := by
  unfold scanLabel
  rw [scanLabelAux, if_neg (by decide), decide_eq_true rfl, scanLabelAux]
  cases scanLabelAux false rest <;> rfl

theorem scanLabel_plain {c : Char} (h1 : c ≠ '"') (h2 : c ≠ '\\') (rest : List Char) :
    scanLabel (c :: rest) = (scanLabel rest).map (Prod.map ([c] ++ ·) id) := by
  unfold scanLabel
  rw [scanLabelAux, if_neg h1, decide_eq_false h2]
  cases scanLabelAux false rest <;> rfl

theorem scanLabel_plain_run (v rest : List Char) (h : ∀ x ∈ v, x ≠ '"' ∧ x ≠ '\\') :
    scanLabel (v ++ '"' :: rest) = some (v, rest) := by
  induction v with
  | nil => exact scanLabel_quote rest
  | cons c v ih =>
    rw [List.forall_mem_cons] at h
    rw [List.cons_append, scanLabel_plain h.1.1 h.1.2, ih h.2]
    rfl

/-- a block without line breaks that the lexer passes, adding it to the value, whatever follows -/
def Inert (b : List Char) : Prop :=
  (∀ x ∈ b, x ≠ '\n' ∧ x ≠ '\r') ∧
  ∀ rest, scanLabel (b ++ rest) = (scanLabel rest).map (Prod.map (b ++ ·) id)

theorem Inert.nil : Inert [] :=
  ⟨List.forall_mem_nil _, fun rest => show scanLabel rest = _ by cases scanLabel rest <;> rfl⟩

theorem Inert.append {a b : List Char} (ha : Inert a) (hb : Inert b) : Inert (a ++ b) := by
  refine ⟨fun x hx => (List.mem_append.mp hx).elim (ha.1 x) (hb.1 x), fun rest => ?_⟩
  rw [List.append_assoc, ha.2, hb.2]
  cases scanLabel rest with
  | none => rfl
  | some p => exact congrArg (fun l => some (l, p.2)) (List.append_assoc ..).symm

theorem Inert.backslash {x : Char} (hx : x ≠ '\n' ∧ x ≠ '\r') : Inert ['\\', x] :=
  ⟨List.forall_mem_cons.mpr ⟨by decide, List.forall_mem_singleton.mpr hx⟩, scanLabel_backslash x⟩

theorem Inert.plain {c : Char} (h : Plain c) : Inert [c] :=
  ⟨List.forall_mem_singleton.mpr h.2.2, scanLabel_plain h.1 h.2.1⟩

theorem inert_escapeChar (c : Char) : Inert (escapeChar c) := by
  fun_cases escapeChar c
  -- the two-character escapes first; `\xNN` and the unescaped character are left
  any_goals exact .backslash (by decide)
  · have := lowByte_lt c
    exact (Inert.backslash (x := 'x') (by decide)).append
      ((Inert.plain (hexDigit_plain _ (Nat.div_lt_of_lt_mul this))).append
        (.plain (hexDigit_plain _ (Nat.mod_lt _ (by decide)))))
  · exact .plain ⟨‹_›, ‹_›, ‹_›, ‹_›⟩

theorem inert_escapeLabel (k : List Char) : Inert (escapeLabel k) := by
  induction k with
  | nil => exact .nil
  | cons c k ih => exact (inert_escapeChar c).append ih

theorem natDigits_digit (n : Nat) (x : Char) (h : x ∈ natDigits n) : x.isDigit = true :=
  Nat.isDigit_of_mem_toDigits (by decide) (by decide) h

theorem isDigit_plain {x : Char} (h : x.isDigit = true) : Plain x := by
  unfold Plain
  refine ⟨?_, ?_, ?_, ?_⟩ <;> (intro hh; subst hh; revert h; decide)

theorem natDigits_plain (n : Nat) (x : Char) (h : x ∈ natDigits n) : Plain x :=
  isDigit_plain (natDigits_digit n x h)

end TcVerif.Metrics
