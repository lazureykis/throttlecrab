/-
  The RESP command layer on a THROTTLE command: `plan` hands it to `handleThrottle`, and nothing
  else is ever sent to the limiter.  Kept apart from RespCmd, which rests on the whole decoder
  chain: MetricsResp and C12 need these facts and nothing of the decoder.
-/
import TcVerif.Model.Resp

namespace TcVerif.Resp

theorem plan_throttle (name : List UInt8) (args : List Value) :
    plan (.array (.bulk (some name) :: args)) (some b!"THROTTLE")
      = handleThrottle (.bulk (some name) :: args) := by
  rfl

theorem plan_send_is_throttle {v : Value} {upper : Option (List UInt8)} {req : ThrottleReq}
    (h : plan v upper = .send req) :
    ∃ c rest, v = .array (.bulk (some c) :: rest) ∧ upper = some b!"THROTTLE" ∧
      handleThrottle (.bulk (some c) :: rest) = .send req := by
  revert h
  fun_cases plan v upper
  -- every branch but the THROTTLE one replies at once
  any_goals rintro ⟨⟩
  exact fun h => ⟨_, _, rfl, rfl, h⟩

theorem handleThrottle_send_key {args : List Value} {req : ThrottleReq}
    (h : handleThrottle args = .send req) :
    ∃ x rest, args = x :: .bulk (some req.key) :: rest := by
  revert h
  fun_cases handleThrottle args
  all_goals rintro ⟨⟩
  all_goals exact ⟨_, _, rfl⟩

end TcVerif.Resp
