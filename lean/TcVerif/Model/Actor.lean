/-
  Model A — the single-actor request pipeline of `throttlecrab-server/src/actor.rs`
  as a labelled transition system.

  * Clients (one per connection / in-flight caller) run a program `prog c : List Rq`,
    one request after the other: the next request is issued only after the previous one
    returned, was cancelled (the caller's future was dropped) or failed.
  * `RateLimiterHandle::throttle`: `call` (the future is created, `tx.send(..)` pending),
    `enq` (the bounded mpsc channel accepted the message: only below `cap`, FIFO),
    then the client waits for the one-shot reply (`ret`).
  * `run_actor`: `proc` = dequeue the head + `handle_throttle` + `response_tx.send` — there
    is no `.await` between the three, so it is ONE transition.  A reply for an abandoned
    request is discarded (`let _ = response_tx.send(..)`).
  * `lim.step = none` stands for "the library call panics": `actorPanic` kills the actor;
    afterwards nothing is enqueued or processed and pending callers `fail`
    ("Rate limiter actor has shut down" / "dropped response channel").  A reply that was
    already in its one-shot slot is still delivered (`ret`), as with tokio's oneshot.
    The queue content is inert once the actor is dead (it is left in place).
  * GHOST state: `log`, the list of events in the order they happened (new events are
    appended, so the position of an event is its list index and never changes).

  `Step` is the transition relation, `step?` the executable version (`step?_iff`), used by
  the trace validator in `ActorDriver.lean`.  No imports: the driver links this file.
-/
namespace TcVerif.Actor

/-- the limiter the actor owns; `none` = the library call panics -/
structure Limiter (L Rq Rs : Type) where
  step : L → Rq → Option (L × Rs)

/-- request id = (client, index in the client's program) -/
abbrev Id := Nat × Nat

inductive Status where
  | idle | sending | waiting
deriving DecidableEq, Repr, Inhabited

/-- mutable part of a client: index of the current / next request, and where it stands -/
structure Cl where
  pc : Nat
  st : Status
deriving DecidableEq, Repr, Inhabited

inductive Event (Rq Rs : Type) where
  | call (id : Id) (r : Rq)
  | enq (id : Id) (r : Rq)
  | proc (id : Id) (r : Rq) (rs : Rs)
  | panic (id : Id) (r : Rq)
  | ret (id : Id) (rs : Rs)
  /-- the caller's future was dropped before the message entered the queue -/
  | cancelSend (id : Id)
  /-- the caller's future was dropped after the message entered the queue -/
  | cancelWait (id : Id)
  | fail (id : Id)
deriving DecidableEq, Repr

inductive Label where
  | call (c : Nat)
  | enq (c : Nat)
  | proc
  | actorPanic
  | ret (c : Nat)
  | cancel (c : Nat)
  | fail (c : Nat)
deriving DecidableEq, Repr

/-- static part of the system -/
structure Sys (L Rq Rs : Type) where
  lim : Limiter L Rq Rs
  /-- `buffer_size` of the mpsc channel -/
  cap : Nat
  /-- the requests client `c` will issue, in order -/
  prog : Nat → List Rq

structure State (L Rq Rs : Type) where
  clients : List Cl
  /-- the mpsc channel: oldest message first -/
  queue : List (Id × Rq)
  lim : L
  /-- one-shot slots holding a reply that was produced and not yet taken -/
  replies : List (Id × Rs)
  /-- one-shot slots whose receiver was dropped after the message was enqueued -/
  abandoned : List Id
  alive : Bool
  /-- ghost: history -/
  log : List (Event Rq Rs)
deriving DecidableEq, Repr

variable {L Rq Rs : Type}

def findReply (id : Id) : List (Id × Rs) → Option Rs
  | [] => none
  | p :: rest => if p.1 = id then some p.2 else findReply id rest

def dropReply (id : Id) : List (Id × Rs) → List (Id × Rs)
  | [] => []
  | p :: rest => if p.1 = id then dropReply id rest else p :: dropReply id rest

/-- `n` clients, nothing issued yet -/
def init (n : Nat) (l0 : L) : State L Rq Rs :=
  { clients := List.replicate n ⟨0, .idle⟩, queue := [], lim := l0, replies := [],
    abandoned := [], alive := true, log := [] }

def setCl (s : State L Rq Rs) (c : Nat) (cl : Cl) : State L Rq Rs :=
  { s with clients := s.clients.set c cl }

def addLog (s : State L Rq Rs) (e : Event Rq Rs) : State L Rq Rs :=
  { s with log := s.log ++ [e] }

/-- the transition relation -/
inductive Step (M : Sys L Rq Rs) : State L Rq Rs → Label → State L Rq Rs → Prop where
  | call {s : State L Rq Rs} {c pc : Nat} {r : Rq}
      (hc : s.clients[c]? = some ⟨pc, .idle⟩) (hr : (M.prog c)[pc]? = some r) :
      Step M s (.call c)
        { s with clients := s.clients.set c ⟨pc, .sending⟩, log := s.log ++ [.call (c, pc) r] }
  | enq {s : State L Rq Rs} {c pc : Nat} {r : Rq}
      (hc : s.clients[c]? = some ⟨pc, .sending⟩) (hr : (M.prog c)[pc]? = some r)
      (hcap : s.queue.length < M.cap) (ha : s.alive = true) :
      Step M s (.enq c)
        { s with clients := s.clients.set c ⟨pc, .waiting⟩, queue := s.queue ++ [((c, pc), r)],
                 log := s.log ++ [.enq (c, pc) r] }
  | proc {s : State L Rq Rs} {id : Id} {r : Rq} {q : List (Id × Rq)} {l' : L} {rs : Rs}
      (ha : s.alive = true) (hq : s.queue = (id, r) :: q) (hs : M.lim.step s.lim r = some (l', rs)) :
      Step M s .proc
        { s with queue := q, lim := l',
                 replies := if id ∈ s.abandoned then s.replies else s.replies ++ [(id, rs)],
                 log := s.log ++ [.proc id r rs] }
  | actorPanic {s : State L Rq Rs} {id : Id} {r : Rq} {q : List (Id × Rq)}
      (ha : s.alive = true) (hq : s.queue = (id, r) :: q) (hs : M.lim.step s.lim r = none) :
      Step M s .actorPanic { s with alive := false, log := s.log ++ [.panic id r] }
  | ret {s : State L Rq Rs} {c pc : Nat} {rs : Rs}
      (hc : s.clients[c]? = some ⟨pc, .waiting⟩) (hf : findReply (c, pc) s.replies = some rs) :
      Step M s (.ret c)
        { s with clients := s.clients.set c ⟨pc + 1, .idle⟩, replies := dropReply (c, pc) s.replies,
                 log := s.log ++ [.ret (c, pc) rs] }
  | cancelSend {s : State L Rq Rs} {c pc : Nat}
      (hc : s.clients[c]? = some ⟨pc, .sending⟩) :
      Step M s (.cancel c)
        { s with clients := s.clients.set c ⟨pc + 1, .idle⟩, log := s.log ++ [.cancelSend (c, pc)] }
  | cancelWait {s : State L Rq Rs} {c pc : Nat}
      (hc : s.clients[c]? = some ⟨pc, .waiting⟩) :
      Step M s (.cancel c)
        { s with clients := s.clients.set c ⟨pc + 1, .idle⟩, replies := dropReply (c, pc) s.replies,
                 abandoned := (c, pc) :: s.abandoned, log := s.log ++ [.cancelWait (c, pc)] }
  | failSend {s : State L Rq Rs} {c pc : Nat}
      (hc : s.clients[c]? = some ⟨pc, .sending⟩) (ha : s.alive = false) :
      Step M s (.fail c)
        { s with clients := s.clients.set c ⟨pc + 1, .idle⟩, log := s.log ++ [.fail (c, pc)] }
  | failWait {s : State L Rq Rs} {c pc : Nat}
      (hc : s.clients[c]? = some ⟨pc, .waiting⟩) (ha : s.alive = false)
      (hf : findReply (c, pc) s.replies = none) :
      Step M s (.fail c)
        { s with clients := s.clients.set c ⟨pc + 1, .idle⟩, log := s.log ++ [.fail (c, pc)] }

/-- the executable transition function -/
def step? (M : Sys L Rq Rs) (s : State L Rq Rs) : Label → Option (State L Rq Rs)
  | .call c =>
    match s.clients[c]? with
    | some ⟨pc, .idle⟩ =>
      match (M.prog c)[pc]? with
      | some r =>
        some { s with clients := s.clients.set c ⟨pc, .sending⟩, log := s.log ++ [.call (c, pc) r] }
      | none => none
    | _ => none
  | .enq c =>
    match s.clients[c]? with
    | some ⟨pc, .sending⟩ =>
      match (M.prog c)[pc]? with
      | some r =>
        if s.queue.length < M.cap ∧ s.alive = true then
          some { s with clients := s.clients.set c ⟨pc, .waiting⟩, queue := s.queue ++ [((c, pc), r)],
                        log := s.log ++ [.enq (c, pc) r] }
        else none
      | none => none
    | _ => none
  | .proc =>
    if s.alive = true then
      match s.queue with
      | (id, r) :: q =>
        match M.lim.step s.lim r with
        | some (l', rs) =>
          some { s with queue := q, lim := l',
                        replies := if id ∈ s.abandoned then s.replies else s.replies ++ [(id, rs)],
                        log := s.log ++ [.proc id r rs] }
        | none => none
      | [] => none
    else none
  | .actorPanic =>
    if s.alive = true then
      match s.queue with
      | (id, r) :: _ =>
        match M.lim.step s.lim r with
        | some _ => none
        | none => some { s with alive := false, log := s.log ++ [.panic id r] }
      | [] => none
    else none
  | .ret c =>
    match s.clients[c]? with
    | some ⟨pc, .waiting⟩ =>
      match findReply (c, pc) s.replies with
      | some rs =>
        some { s with clients := s.clients.set c ⟨pc + 1, .idle⟩, replies := dropReply (c, pc) s.replies,
                      log := s.log ++ [.ret (c, pc) rs] }
      | none => none
    | _ => none
  | .cancel c =>
    match s.clients[c]? with
    | some ⟨pc, .sending⟩ =>
      some { s with clients := s.clients.set c ⟨pc + 1, .idle⟩, log := s.log ++ [.cancelSend (c, pc)] }
    | some ⟨pc, .waiting⟩ =>
      some { s with clients := s.clients.set c ⟨pc + 1, .idle⟩, replies := dropReply (c, pc) s.replies,
                    abandoned := (c, pc) :: s.abandoned, log := s.log ++ [.cancelWait (c, pc)] }
    | _ => none
  | .fail c =>
    if s.alive = false then
      match s.clients[c]? with
      | some ⟨pc, .sending⟩ =>
        some { s with clients := s.clients.set c ⟨pc + 1, .idle⟩, log := s.log ++ [.fail (c, pc)] }
      | some ⟨pc, .waiting⟩ =>
        match findReply (c, pc) s.replies with
        | none =>
          some { s with clients := s.clients.set c ⟨pc + 1, .idle⟩, log := s.log ++ [.fail (c, pc)] }
        | some _ => none
      | _ => none
    else none

theorem step?_iff {M : Sys L Rq Rs} {s s' : State L Rq Rs} {lb : Label} :
    step? M s lb = some s' ↔ Step M s lb s' := by
  refine ⟨fun h => ?_, fun h => by cases h <;> simp only [step?, *, and_self, reduceIte]⟩
  revert h
  -- along the branches of `step?`: those that return `none` contradict `h`
  fun_cases step? M s lb <;> intro h <;> cases h
  · exact .call ‹_› ‹_›
  · exact .enq ‹_› ‹_› (‹_ ∧ _›).1 (‹_ ∧ _›).2
  · exact .proc ‹_› ‹_› ‹_›
  · exact .actorPanic ‹_› ‹_› ‹_›
  · exact .ret ‹_› ‹_›
  · exact .cancelSend ‹_›
  · exact .cancelWait ‹_›
  · exact .failSend ‹_› ‹_›
  · exact .failWait ‹_› ‹_› ‹_›

/-- a finite run along a list of labels -/
inductive Run (M : Sys L Rq Rs) : State L Rq Rs → List Label → State L Rq Rs → Prop where
  | nil (s : State L Rq Rs) : Run M s [] s
  | cons {s s1 s2 : State L Rq Rs} {lb : Label} {lbs : List Label} :
      Step M s lb s1 → Run M s1 lbs s2 → Run M s (lb :: lbs) s2

def run? (M : Sys L Rq Rs) : State L Rq Rs → List Label → Option (State L Rq Rs)
  | s, [] => some s
  | s, lb :: lbs =>
    match step? M s lb with
    | some s1 => run? M s1 lbs
    | none => none

theorem run?_iff {M : Sys L Rq Rs} {s s' : State L Rq Rs} {lbs : List Label} :
    run? M s lbs = some s' ↔ Run M s lbs s' := by
  induction lbs generalizing s with
  | nil =>
    simp only [run?]
    exact ⟨fun h => by cases h; exact .nil _, fun h => by cases h; rfl⟩
  | cons lb lbs ih =>
    simp only [run?]
    constructor
    · intro h
      split at h
      · exact .cons (step?_iff.mp ‹_›) (ih.mp h)
      · cases h
    · rintro (_ | ⟨h1, h2⟩)
      rw [step?_iff.mpr h1]
      exact ih.mpr h2

/-- reachable from the initial state with `n` clients and limiter state `l0` -/
inductive Reach (M : Sys L Rq Rs) (n : Nat) (l0 : L) : State L Rq Rs → Prop where
  | init : Reach M n l0 (init n l0)
  | step {s s' : State L Rq Rs} {lb : Label} : Reach M n l0 s → Step M s lb s' → Reach M n l0 s'

theorem Reach.run {M : Sys L Rq Rs} {n : Nat} {l0 : L} {s s' : State L Rq Rs} {lbs : List Label}
    (h : Reach M n l0 s) (hr : Run M s lbs s') : Reach M n l0 s' := by
  induction hr with
  | nil => exact h
  | cons h1 _ ih => exact ih (.step h h1)

theorem Run.snoc {M : Sys L Rq Rs} {s s1 s2 : State L Rq Rs} {lbs : List Label} {lb : Label}
    (hr : Run M s lbs s1) (hst : Step M s1 lb s2) : Run M s (lbs ++ [lb]) s2 := by
  induction hr with
  | nil => exact .cons hst (.nil _)
  | cons h1 _ ih => exact .cons h1 (ih hst)

theorem reach_iff_run {M : Sys L Rq Rs} {n : Nat} {l0 : L} {s : State L Rq Rs} :
    Reach M n l0 s ↔ ∃ lbs, Run M (init n l0) lbs s := by
  constructor
  · intro h
    induction h with
    | init => exact ⟨[], .nil _⟩
    | step _ hst ih =>
      obtain ⟨lbs, hr⟩ := ih
      exact ⟨lbs ++ [_], hr.snoc hst⟩
  · rintro ⟨lbs, hr⟩
    exact Reach.run .init hr

/-! ### projections of the event log -/

/-- the `proc` log: the witness linearization -/
def procLog : List (Event Rq Rs) → List (Id × Rq × Rs)
  | [] => []
  | .proc id r rs :: rest => (id, r, rs) :: procLog rest
  | _ :: rest => procLog rest

/-- the `enq` log -/
def enqLog : List (Event Rq Rs) → List (Id × Rq)
  | [] => []
  | .enq id r :: rest => (id, r) :: enqLog rest
  | _ :: rest => enqLog rest

/-- sequential execution of a list of requests on one limiter -/
def seqRun (lim : Limiter L Rq Rs) : L → List Rq → Option (L × List Rs)
  | l, [] => some (l, [])
  | l, r :: rest =>
    match lim.step l r with
    | none => none
    | some (l', o) =>
      match seqRun lim l' rest with
      | none => none
      | some (lf, os) => some (lf, o :: os)

end TcVerif.Actor
