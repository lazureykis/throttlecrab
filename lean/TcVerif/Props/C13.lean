/-
  C13 — RESP decoding is safe on any bytes and independent of packet boundaries.

  `parse d = decode 128 d` is the parser entered at depth 0, on EVERY byte list `d`; a statement
  about `decode fuel`, `decodeD` or `readLine` holds at every depth.  The statements about a whole
  connection (`connRunS`) come last.
-/
import TcVerif.Lemmas.RespWF
import TcVerif.Lemmas.RespConn
import TcVerif.Lemmas.RespDepth

namespace TcVerif.Resp

open TcVerif.Gen

/-- `C13_no_panic` is implicit in totality; the consumed length is within the buffer, so
    `buffer.drain(..consumed)` and the element slices `&data[consumed..]` are in bounds. -/
theorem C13_consumed_bounds {d : List UInt8} {v : Value} {n : Nat} (h : parse d = .ok v n) :
    1 ≤ n ∧ n ≤ d.length :=
  parse_bound h

/-- index safety of `&line[1..]`: every frame starts with a type byte that is not CR, so the
    line returned by `read_line` has at least one byte -/
theorem C13_index_line {t : UInt8} {r l : List UInt8} {n : Nat} (ht : t ≠ 13)
    (h : readLine (t :: r) = some (l, n)) : 1 ≤ l.length ∧ n ≤ (t :: r).length :=
  ⟨readLine_line_nonempty ht h, (readLine_bound h).2⟩

/-- index safety inside the element loop (at any depth): after decoding `c` elements the running
    offset `m` (the model's `d.drop m`, Rust's `&data[consumed..]`) is within the slice -/
theorem C13_index_elems {fuel c : Nat} {d : List UInt8} {vs : List Value} {m : Nat}
    (h : decodeElems fuel c d = .ok vs m) : m ≤ d.length ∧ vs.length = c :=
  decodeElemsWith_bound (decode_local fuel) h

/-- every decoded value is within the limits: bulk strings ≤ 512 MiB and valid UTF-8, arrays
    ≤ 2^20 elements, simple strings / errors valid UTF-8 without CR LF, integers in `i64`,
    nesting ≤ 128 (`WF` unfolds to `sizesOk v ∧ depth v ≤ 128`) -/
theorem C13_limits {d : List UInt8} {v : Value} {n : Nat} (h : parse d = .ok v n) : WF v :=
  parse_wf h

/-- what `WF` says about a bulk string -/
theorem C13_limits_bulk {s : List UInt8} (h : WF (.bulk (some s))) :
    s.length ≤ 536870912 ∧ validUtf8 s = true :=
  ⟨(WF_bulk h).2, (WF_bulk h).1⟩

/-- what `WF` says about an array: size, depth, and every element is again `WF` -/
theorem C13_limits_array {xs : List Value} (h : WF (.array xs)) :
    xs.length ≤ 1048576 ∧ depth (.array xs) ≤ 128 ∧ ∀ x ∈ xs, WF x := by
  have h' := WF_iff.mp h
  simp only [sizesOk, Bool.and_eq_true, decide_eq_true_eq] at h'
  exact ⟨h'.1.1, h'.2, WF_array_mem h⟩

/-- a `$` header outside `-1 ..= 512 MiB` is an error (at every depth) -/
theorem C13_limits_bulk_header {fuel : Nat} {r l : List UInt8} {n : Nat} {k : Int}
    (hl : readLine (36 :: r) = some (l, n)) (hk : parseHdrInt (l.drop 1) = some k)
    (hbad : k < -1 ∨ k > 536870912) : decode fuel (36 :: r) = .error := by
  rw [decode_bulk, decodeBulk, header_reject hl hk (by simpa [RESP_MAX_BULK] using hbad)]

/-- a `*` header outside `-1 ..= 2^20` is an error (at every depth) -/
theorem C13_limits_array_header {fuel : Nat} {r l : List UInt8} {n : Nat} {k : Int}
    (hl : readLine (42 :: r) = some (l, n)) (hk : parseHdrInt (l.drop 1) = some k)
    (hbad : k < -1 ∨ k > 1048576) : decode fuel (42 :: r) = .error := by
  cases fuel with
  | zero => exact decode_array_zero r
  | succ f =>
    rw [decode_array_succ f r, header_reject hl hk (by simpa [RESP_MAX_ARRAY] using hbad)]

/-- the 129th nested `*` is rejected before its header is even read -/
theorem C13_limits_depth (x : List UInt8) :
    parse ((List.replicate 128 b!"*1\r\n").flatten ++ 42 :: x) = .error :=
  decode_too_deep 128 x

/-- The literal transcription of the Rust parser with its `self.depth` field (`decodeD`, entered
    with `depth = 0`) returns exactly `parse d`, and the counter is 0 again after `ok` and after
    "need more data" — so re-using one `RespParser` for every iteration of the connection loop is
    the same as calling `parse` afresh.  (After an error the counter may stay raised; the
    connection is closed then.) -/
theorem C13_depth_restored (d : List UInt8) :
    (decodeD RESP_MAX_DEPTH 0 d).1 = parse d ∧
    ((decodeD RESP_MAX_DEPTH 0 d).1 ≠ .error → (decodeD RESP_MAX_DEPTH 0 d).2 = 0) :=
  (decodeD_restores RESP_MAX_DEPTH 0 d (Nat.le_refl _)).spec

/-- the same at any entry depth: result = `decode (128 - depth)`, counter restored -/
theorem C13_depth_restored_at (gas depth : Nat) (d : List UInt8) (hg : RESP_MAX_DEPTH ≤ depth + gas) :
    (decodeD gas depth d).1 = decode (RESP_MAX_DEPTH - depth) d ∧
    ((decodeD gas depth d).1 ≠ .error → (decodeD gas depth d).2 = depth) :=
  (decodeD_restores gas depth d hg).spec

theorem C13_prefix_stable_ok {d : List UInt8} {v : Value} {n : Nat} (h : parse d = .ok v n)
    (x : List UInt8) : parse (d ++ x) = .ok v n :=
  parse_append x h nofun

theorem C13_prefix_stable_err {d : List UInt8} (h : parse d = .error) (x : List UInt8) :
    parse (d ++ x) = .error :=
  parse_append x h nofun

/-- the decoder only looks at the bytes of the frame it returns -/
theorem C13_frame_local {d : List UInt8} {v : Value} {n : Nat} (h : parse d = .ok v n) :
    parse (d.take n) = .ok v n :=
  parse_take n h (Nat.le_refl n)

/-- every strict prefix of a complete frame is "need more data" -/
theorem C13_strict_prefix_incomplete {f : List UInt8} {v : Value}
    (h : parse f = .ok v f.length) (p : List UInt8) (hp : p <+: f) (hne : p ≠ f) :
    parse p = .incomplete := by
  obtain ⟨s, rfl⟩ := hp
  cases hq : parse p with
  | incomplete => rfl
  | _ =>
    -- a decided `p` would consume at most `|p|` bytes, and `p ++ s` gets the same answer
    have hb := hq.trans ((parse_append s hq nofun).symm.trans h)
    have hlen : p.length < (p ++ s).length := by
      cases s with
      | nil => simp at hne
      | cons a s => simp
    have := (parse_bound hb).2
    omega

/-! Connection level: stated for a stateful limiter `actor : σ → ThrottleReq → ActorAnswer × σ`
started in state `st` (`connRunS`); `connRun` with a stateless limiter is the instance `σ = Unit`. -/

/-- however a stream is cut into reads, as long as neither run hits the 64 KiB cap the bytes
    written, the way the connection ends (incl. the undecoded tail left in the buffer), the
    sequence of decoded commands and the final limiter state are the same.
    (The 1024-byte bound on reads is not needed.) -/
theorem C13_chunking_invariant {σ : Type} (actor : σ → ThrottleReq → ActorAnswer × σ)
    (upperOf : List UInt8 → List UInt8) (st : σ) (s : List UInt8) (cs₁ cs₂ : List (List UInt8))
    (h₁ : IsChunking cs₁ s) (h₂ : IsChunking cs₂ s)
    (no₁ : (connRunS actor upperOf st cs₁).end ≠ .overflow)
    (no₂ : (connRunS actor upperOf st cs₂).end ≠ .overflow) :
    (connRunS actor upperOf st cs₁).out = (connRunS actor upperOf st cs₂).out ∧
    (connRunS actor upperOf st cs₁).end = (connRunS actor upperOf st cs₂).end ∧
    (connRunS actor upperOf st cs₁).cmds = (connRunS actor upperOf st cs₂).cmds ∧
    (connRunS actor upperOf st cs₁).st = (connRunS actor upperOf st cs₂).st := by
  have e1 := (connRunS_stream actor upperOf st cs₁).2.2 (fun c hc => (h₁.2 c hc).1) no₁
  have e2 := (connRunS_stream actor upperOf st cs₂).2.2 (fun c hc => (h₂.2 c hc).1) no₂
  rw [h₁.1] at e1
  rw [h₂.1] at e2
  simpa only [Prod.mk.injEq] using e1.trans e2.symm

/-- the stateless form: `connRun` writes the same bytes and ends the same way -/
theorem C13_chunking_invariant_stateless (actor : ThrottleReq → ActorAnswer)
    (upperOf : List UInt8 → List UInt8) (s : List UInt8) (cs₁ cs₂ : List (List UInt8))
    (h₁ : IsChunking cs₁ s) (h₂ : IsChunking cs₂ s)
    (no₁ : (connRun actor upperOf cs₁).2 ≠ .overflow)
    (no₂ : (connRun actor upperOf cs₂).2 ≠ .overflow) :
    connRun actor upperOf cs₁ = connRun actor upperOf cs₂ := by
  have := C13_chunking_invariant (liftActor actor) upperOf () s cs₁ cs₂ h₁ h₂ no₁ no₂
  unfold connRun connRunFull
  simp only [this.1, this.2.1]

/-- a run that does hit the cap has written a prefix of what the uncapped stream semantics
    writes, and has decoded a prefix of its commands -/
theorem C13_chunking_overflow_prefix {σ : Type} (actor : σ → ThrottleReq → ActorAnswer × σ)
    (upperOf : List UInt8 → List UInt8) (st : σ) (cs : List (List UInt8))
    (hne : ∀ c ∈ cs, c ≠ []) :
    (connRunS actor upperOf st cs).out <+: (streamRun actor upperOf st cs.flatten).out ∧
    (connRunS actor upperOf st cs).cmds <+: (streamRun actor upperOf st cs.flatten).cmds :=
  ⟨(connRunS_stream actor upperOf st cs).1, (connRunS_stream actor upperOf st cs).2.1⟩

/-- if every frame of the stream is decided within `65536 - 1024` bytes (and an unfinished tail is
    at most that long), no chunking into reads of ≤ 1024 bytes overflows -/
theorem C13_no_overflow {σ : Type} (actor : σ → ThrottleReq → ActorAnswer × σ)
    (upperOf : List UInt8 → List UInt8) (st : σ) (s : List UInt8) (cs : List (List UInt8))
    (h : IsChunking cs s) (hsmall : FramesSmall s) :
    (connRunS actor upperOf st cs).end ≠ .overflow :=
  (connRunS_runs actor upperOf st cs).no_overflow (fun c hc => (h.2 c hc).2)
    (by simpa [h.1] using hsmall)

/-- the buffer handed to `parse` never exceeds 64 KiB -/
theorem C13_buffer_cap {σ : Type} (actor : σ → ThrottleReq → ActorAnswer × σ)
    (upperOf : List UInt8 → List UInt8) (st : σ) (cs : List (List UInt8)) :
    ∀ n ∈ (connRunS actor upperOf st cs).parsed, n ≤ 65536 :=
  fun n hn => ((connRunS_runs actor upperOf st cs).buffer_le_cap (Nat.zero_le _)).1 n
    (List.mem_cons_of_mem _ hn)

/-- a connection that is still open holds at most 64 KiB of undecoded input -/
theorem C13_open_buffer_cap {σ : Type} (actor : σ → ThrottleReq → ActorAnswer × σ)
    (upperOf : List UInt8 → List UInt8) (st : σ) (cs : List (List UInt8)) (buf : List UInt8)
    (h : (connRunS actor upperOf st cs).end = .open buf) : buf.length ≤ 65536 :=
  ((connRunS_runs actor upperOf st cs).buffer_le_cap (Nat.zero_le _)).2 buf h

/-- a frame that is still undecided after 64 KiB always ends the connection: if the stream is
    longer than the cap and its first 65536 bytes are "need more data", every chunking overflows
    and nothing is written or decoded -/
theorem C13_long_frame_overflows {σ : Type} (actor : σ → ThrottleReq → ActorAnswer × σ)
    (upperOf : List UInt8 → List UInt8) (st : σ) (s : List UInt8) (cs : List (List UInt8))
    (h : IsChunking cs s) (hinc : parse (s.take 65536) = .incomplete) (hlen : 65536 < s.length) :
    (connRunS actor upperOf st cs).end = .overflow ∧ (connRunS actor upperOf st cs).out = [] ∧
    (connRunS actor upperOf st cs).cmds = [] :=
  (connRunS_runs actor upperOf st cs).long_frame (fun c hc => (h.2 c hc).1)
    (Nat.zero_le _)
    (by simpa [h.1, RESP_MAX_BUFFER] using hinc) (by simpa [h.1, RESP_MAX_BUFFER] using hlen)

example : parse b!"*2\r\n$4\r\nPING\r\n$2\r\nhi\r\n"
    = .ok (.array [.bulk (some b!"PING"), .bulk (some b!"hi")]) 22 := by rfl

example : parse b!"*2\r\n$4\r\nPING\r\n$2\r\nhi\r" = .incomplete := by rfl

example : parse b!"$600000000\r\n" = .error := by rfl

/-- invalid UTF-8 (`$2 <FF FE>`) -/
example : parse [36, 50, 13, 10, 0xFF, 0xFE, 13, 10] = .error := by rfl

/-- the two trailing bytes of a bulk string are NOT checked (Rust behaviour, kept by the model) -/
example : parse b!"$1\r\naXY" = .ok (.bulk (some b!"a")) 7 := by rfl

/-- on an element error the counter is NOT decremented (here it stays at 1) -/
example : decodeD RESP_MAX_DEPTH 0 b!"*1\r\n?" = (.error, 1) := by rfl

example : decodeD RESP_MAX_DEPTH 0 b!"*2\r\n*1\r\n:1\r\n*1\r\n:" = (.incomplete, 0) := by rfl

example : FramesSmall b!"*1\r\n$4\r\nPING\r\n+x" :=
  .frame _ (.array [.bulk (some b!"PING")]) 14 (by rfl) (.tail _ (by rfl) (by decide))

example : IsChunking [b!"*1\r\n$4\r\nPI", b!"NG\r\n"] b!"*1\r\n$4\r\nPING\r\n" := by
  unfold IsChunking
  decide +kernel

end TcVerif.Resp
