/-
  C18 — Rate arithmetic: the configured rate is realised to within 1 ns per token.

  `emissionInterval count period` is the bit-level replica (IEEE-754 binary64, round-to-nearest-
  even, `as u64` truncation) of
      (period_seconds as f64 * 1_000_000_000.0 / count as f64) as u64
  in `Rate::from_count_and_period`.  Domain of the property ("normal domain"):
      1 ≤ period ≤ 9·10^6 s,   1 ≤ count ≤ period·10^9.
  The proofs (Lemmas/Float*.lean) show that on this domain the two conversions and the product are
  exact (everything is an integer below 2^53) and that the single rounding of the quotient can
  never reach the next integer: the distance from P/c to ⌊P/c⌋+1 is at least 1/c, which is more
  than half an ulp of the quotient.  The result holds in fact whenever period·10^9 < 2^53 and
  count < 2^53 (`emissionInterval_int`), which is what `C18_unit_constructors` uses for counts
  larger than k·10^9 (both sides are then 0).

  All theorems here are stated over `Int`, the type of the model's `count`/`period` arguments.
-/
import TcVerif.Lemmas.FloatRne
namespace TcVerif

/-- THE theorem: on the normal domain the emission interval is the exact quotient
    `period·10^9 / count` rounded down to a nanosecond. -/
theorem C18_floor (c p : Int) (hp1 : 1 ≤ p) (hp : p ≤ 9000000) (hc1 : 1 ≤ c)
    (hc : c ≤ p * 1000000000) :
    emissionInterval c p = p * 1000000000 / c :=
  emissionInterval_int c p (by omega) (by omega) (by omega) (by omega)

example : emissionInterval 100 60 = 60 * 1000000000 / 100 :=
  C18_floor 100 60 (by decide) (by decide) (by decide) (by decide)
example : emissionInterval 3 1 = 333333333 :=
  C18_floor 3 1 (by decide) (by decide) (by decide) (by decide)
/-- both domain bounds attained -/
example : emissionInterval (9000000 * 1000000000) 9000000 = 1 :=
  C18_floor (9000000 * 1000000000) 9000000 (by decide) (by decide) (by decide) (by decide)

/-- `E × count ≤ period < (E + 1 ns) × count`, and `E` is at least one nanosecond. -/
theorem C18_bracket (c p : Int) (hp1 : 1 ≤ p) (hp : p ≤ 9000000) (hc1 : 1 ≤ c)
    (hc : c ≤ p * 1000000000) :
    emissionInterval c p * c ≤ p * 1000000000 ∧
    p * 1000000000 < (emissionInterval c p + 1) * c ∧
    1 ≤ emissionInterval c p := by
  rw [C18_floor c p hp1 hp hc1 hc]
  have hc0 : 0 < c := by omega
  exact ⟨Int.ediv_mul_le _ (by omega), Int.lt_ediv_add_one_mul_self _ hc0,
    (Int.le_ediv_iff_mul_le hc0).2 (by omega)⟩

example : emissionInterval 7 60 * 7 ≤ 60 * 1000000000 ∧
    60 * 1000000000 < (emissionInterval 7 60 + 1) * 7 ∧ 1 ≤ emissionInterval 7 60 :=
  C18_bracket 7 60 (by decide) (by decide) (by decide) (by decide)

/-- The sustained granted rate never falls below the configured one.
    One token is granted every `E` ns, i.e. `count` tokens every `E·count` ns, and
    `E·count ≤ period` (in ns): at least `count` tokens per `period`. -/
theorem C18_rate_not_below (c p : Int) (hp1 : 1 ≤ p) (hp : p ≤ 9000000) (hc1 : 1 ≤ c)
    (hc : c ≤ p * 1000000000) :
    emissionInterval c p * c ≤ p * 1000000000 :=
  (C18_bracket c p hp1 hp hc1 hc).1

example : emissionInterval 7 60 * 7 ≤ 60 * 1000000000 :=
  C18_rate_not_below 7 60 (by decide) (by decide) (by decide) (by decide)

/-- The granted rate exceeds the configured one by less than one part in `E`.
    With `P = period·10^9` ns: granted rate `1/E`, configured rate `c/P` (tokens per ns). The
    relative excess is `(1/E − c/P) / (c/P) = (P − E·c) / (E·c)`; it is `< 1/E` iff
    `(P − E·c)·E < E·c` (multiply by `E·(E·c) > 0`), which is the second conjunct; the first
    conjunct `P − E·c < c` is the same fact with the positive factor `E` cancelled (the shortfall
    of `E·c` against the period is less than one count, i.e. less than 1 ns per token). -/
theorem C18_rate_excess (c p : Int) (hp1 : 1 ≤ p) (hp : p ≤ 9000000) (hc1 : 1 ≤ c)
    (hc : c ≤ p * 1000000000) :
    p * 1000000000 - emissionInterval c p * c < c ∧
    (p * 1000000000 - emissionInterval c p * c) * emissionInterval c p
      < emissionInterval c p * c := by
  obtain ⟨_, h2, h3⟩ := C18_bracket c p hp1 hp hc1 hc
  have h4 : p * 1000000000 - emissionInterval c p * c < c := by
    rw [Int.add_mul, Int.one_mul] at h2
    omega
  refine ⟨h4, ?_⟩
  have h5 := Int.mul_lt_mul_of_pos_right h4 (show 0 < emissionInterval c p by omega)
  rw [Int.mul_comm c (emissionInterval c p)] at h5
  exact h5

example : 60 * 1000000000 - emissionInterval 7 60 * 7 < 7 ∧
    (60 * 1000000000 - emissionInterval 7 60 * 7) * emissionInterval 7 60 < emissionInterval 7 60 * 7 :=
  C18_rate_excess 7 60 (by decide) (by decide) (by decide) (by decide)

/-- `Rate::per_second/per_minute/per_hour/per_day(n)` (= `Duration::from_secs(k) / (n as u32)`)
    agree with `from_count_and_period(n, k)` for every `n` from 1 to 2^32 − 1, including the
    counts above `k·10^9` where both intervals are 0 ns. (`unitRate` returning `some` also says:
    no division-by-zero panic for these `n`.) -/
theorem C18_unit_constructors (n k : Nat) (hn1 : 1 ≤ n) (hn : n ≤ 4294967295)
    (hk : k = Gen.UNIT_SECOND_SECS ∨ k = Gen.UNIT_MINUTE_SECS ∨ k = Gen.UNIT_HOUR_SECS ∨
      k = Gen.UNIT_DAY_SECS) :
    unitRate k n = some (emissionInterval (n : Int) (k : Int)).toNat := by
  have hk' : 0 < k ∧ k * Gen.NS_PER_SEC < P53 := by
    rcases hk with rfl | rfl | rfl | rfl <;> decide
  rw [emissionInterval_int n k (by omega) (by omega) (Int.ofNat_lt.2 hk'.2) (by omega)]
  unfold unitRate
  rw [Nat.mod_eq_of_lt (by omega), if_neg (by omega)]
  exact congrArg some (Int.toNat_natCast _).symm

example : unitRate Gen.UNIT_MINUTE_SECS 7 = some (emissionInterval 7 60).toNat :=
  C18_unit_constructors 7 60 (by decide) (by decide) (Or.inr (Or.inl rfl))
/-- a count above k·10^9: both sides are 0 ns -/
example : unitRate Gen.UNIT_SECOND_SECS 4294967295 = some 0 ∧
    (emissionInterval 4294967295 1).toNat = 0 := by
  have h := C18_unit_constructors 4294967295 1 (by decide) (by decide) (Or.inl rfl)
  have h0 : unitRate 1 4294967295 = some 0 := by decide
  exact ⟨h0, (Option.some.inj (h0.symm.trans h)).symm⟩

/-- Non-positive arguments give the documented blocking rate `Duration::from_secs(u64::MAX)`
    (in ns) — a total function, no panic. -/
theorem C18_nonpositive_blocking (c p : Int) (h : c ≤ 0 ∨ p ≤ 0) :
    emissionInterval c p = 18446744073709551615 * 1000000000 := by
  unfold emissionInterval
  rw [if_pos h]
  rfl

example : emissionInterval 0 60 = 18446744073709551615 * 1000000000 :=
  C18_nonpositive_blocking 0 60 (Or.inl (by decide))
example : emissionInterval 5 (-1) = 18446744073709551615 * 1000000000 :=
  C18_nonpositive_blocking 5 (-1) (Or.inr (by decide))

end TcVerif
