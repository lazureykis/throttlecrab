/-
  C01 — Rate conformance: no window ever admits more than burst + rate × length.

  For every multi-key history with globally non-decreasing timestamps, on every store (kind,
  configuration, cleanup schedule), for every key `k` used with fixed limits in D (other keys
  arbitrary), and EVERY window [t1,t2]: the quantity admitted for `k` with timestamps inside the
  window is at most  max_burst + (t2 - t1) / emission_interval.  Idle gaps, expiry and cleanup of
  the key are all covered: the state of `k` lives in whatever store is plugged in and the
  theorem quantifies over all of them and all their sweeps.

  Proof: C05 projects the responses for `k` onto `k`'s cell (this is where non-decreasing time
  is needed: stores sweep); on the cell the stored TAT only moves forward, so what is admitted
  with stamps in [t1,t2] fits between t1 - E and t2 + τ (`window_any_order`, shared with C17).
-/
import TcVerif.Props.C02
import TcVerif.Lemmas.NonMono
namespace TcVerif

/-- **C01, in nanoseconds of credit**: `Σ q·E ≤ B·E + (t2 - t1)`. -/
theorem C01_window_bound_credit (ei : Int → Int → Int) (k : Key) (rs : List Req) (t0 : Int) (E B : Int)
    (st : AnyStore) (hst : st.data = []) (hm : MonotoneFrom t0 rs)
    (hfix : FixedD ei E B t0 (rs.filter (fun r => r.key = k))) (hD : DomD E B)
    (t1 t2 : Int) (h12 : t1 ≤ t2) :
    admittedCreditK k E t1 t2 (runTagged AnyStore.ops ei st rs) ≤ B * E + (t2 - t1) := by
  rw [admittedCreditK_filter, C05_projection_to_cell ei k rs t0 st hst hm]
  exact window_fresh _ t1 t2 (fixedD_allOK hfix) hD h12

/-- **C01.** The total quantity admitted with timestamps in any window `[t1,t2]` never exceeds
    `max_burst + (t2 - t1) / emission_interval` (integer division). -/
theorem C01_window_bound (ei : Int → Int → Int) (k : Key) (rs : List Req) (t0 : Int) (E B : Int)
    (st : AnyStore) (hst : st.data = []) (hm : MonotoneFrom t0 rs)
    (hfix : FixedD ei E B t0 (rs.filter (fun r => r.key = k))) (hD : DomD E B)
    (t1 t2 : Int) (h12 : t1 ≤ t2) :
    admittedTokensK k t1 t2 (runTagged AnyStore.ops ei st rs) ≤ B + (t2 - t1) / E :=
  tokens_le_of_credit_le hD.hE (C01_window_bound_credit ei k rs t0 E B st hst hm hfix hD t1 t2 h12)

/-- a key that was quiet for any length of time never earns more than `max_burst` at one instant -/
theorem C01_idle_never_exceeds_burst (ei : Int → Int → Int) (k : Key) (rs : List Req) (t0 : Int) (E B : Int)
    (st : AnyStore) (hst : st.data = []) (hm : MonotoneFrom t0 rs)
    (hfix : FixedD ei E B t0 (rs.filter (fun r => r.key = k))) (hD : DomD E B) (t : Int) :
    admittedTokensK k t t (runTagged AnyStore.ops ei st rs) ≤ B := by
  have h := C01_window_bound ei k rs t0 E B st hst hm hfix hD t t (Int.le_refl t)
  simpa using h

/-! #### non-vacuity: the history of C02's example attains the bound with equality
    (burst 2 at t = 1 s: 1 + 1 admitted; after an idle gap of 7.5 s again exactly 2) -/

example : admittedTokensK "k" 1000000000 1000000000
    (runTagged AnyStore.ops (fun c p => p * 1000000000 / c) (.adaptive ⟨[], 0, 0, 0, 0, 0, 0, 1, 0, 0, []⟩) exHist2) = 2 := by
  decide

example : admittedTokensK "k" 9000000000 9000000000
    (runTagged AnyStore.ops (fun c p => p * 1000000000 / c) (.adaptive ⟨[], 0, 0, 0, 0, 0, 0, 1, 0, 0, []⟩) exHist2) = 2 := by
  decide

example : DomD 1000000000 2 := ⟨by decide, by decide, by decide⟩

/-- **C01 for `rate_limit` itself**: limits `(B, c, p)` in the domain D of the property, the interval
    computed by the (soft-float model of the) code, which by C18 is `p·10⁹ / c`. -/
theorem C01_window_bound_rate_limit (k : Key) (rs : List Req) (t0 : Int) (B c p : Int)
    (st : AnyStore) (hst : st.data = []) (hm : MonotoneFrom t0 rs)
    (hp1 : 1 ≤ p) (hp2 : p ≤ 9000000) (hc1 : 1 ≤ c) (hc2 : c ≤ p * 1000000000) (hB : 1 ≤ B)
    (hBE : B * (p * 1000000000 / c) ≤ TWO60)
    (hreqs : ∀ r ∈ rs, r.key = k → r.burst = B ∧ r.count = c ∧ r.period = p ∧ 0 ≤ r.qty ∧ 0 ≤ r.now ∧ r.now ≤ T_MAX)
    (t1 t2 : Int) (h12 : t1 ≤ t2) :
    admittedTokensK k t1 t2 (runTagged AnyStore.ops emissionInterval st rs) ≤ B + (t2 - t1) / (p * 1000000000 / c) := by
  obtain ⟨hD, hfix⟩ := fixedD_of_rate_limit_hyps k rs t0 B c p hm hp1 hp2 hc1 hc2 hB hBE hreqs
  exact C01_window_bound emissionInterval k rs t0 _ B st hst hm hfix hD t1 t2 h12

end TcVerif
