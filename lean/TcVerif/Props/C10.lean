/-
  C10 — Every request is answered exactly once, in order, even under back-pressure
  (the part about the actor pipeline; the RESP connection part is `C10Resp.lean`).

  Model: the actor LTS of `Model/Actor.lean`.  Every theorem holds in every reachable state:
  any number of clients, any programs, any capacity (`cap ≥ 1` is needed only for progress),
  any limiter, every interleaving, every point at which a client may drop its pending request
  (`cancel` from `sending` = before enqueue, `cancel` from `waiting` = after enqueue, before or
  after the reply was produced).
-/
import TcVerif.Lemmas.ActorProgress
import TcVerif.Lemmas.ActorToy
namespace TcVerif.Actor
variable {L Rq Rs : Type}
variable {M : Sys L Rq Rs} {n : Nat} {l0 : L} {s : State L Rq Rs}

/-- **C10 (exactly once).**  In every reachable state, for every request id: it is called at most
    once, enqueued at most once, processed at most once, finished (returned / cancelled / failed)
    at most once — in particular returned at most once and never both returned and failed; the
    queue holds no request twice and none that was already processed. -/
theorem C10_exactly_once (h : Reach M n l0 s) (id : Id) :
    (∀ {i j : Nat} {r r' : Rq}, s.log[i]? = some (.call id r) → s.log[j]? = some (.call id r') → i = j) ∧
    (∀ {i j : Nat} {r r' : Rq}, s.log[i]? = some (.enq id r) → s.log[j]? = some (.enq id r') → i = j) ∧
    (∀ {i j : Nat} {r r' : Rq} {o o' : Rs},
      s.log[i]? = some (.proc id r o) → s.log[j]? = some (.proc id r' o') → i = j) ∧
    (∀ {i j : Nat} {e e' : Event Rq Rs},
      s.log[i]? = some e → s.log[j]? = some e' → e.finishes id → e'.finishes id → i = j) ∧
    (∀ {i j : Nat} {o o' : Rs}, s.log[i]? = some (.ret id o) → s.log[j]? = some (.ret id o') → i = j ∧ o = o') ∧
    (∀ {i j : Nat} {o : Rs}, s.log[i]? = some (.ret id o) → s.log[j]? = some (.fail id) → False) ∧
    (s.queue.map (·.1)).Nodup ∧
    (∀ {r r' : Rq} {o : Rs}, (id, r) ∈ s.queue → Event.proc id r' o ∈ s.log → False) := by
  refine ⟨fun hi hj => tick_unique h hi hj rfl rfl, fun hi hj => tick_unique h hi hj rfl rfl,
    fun hi hj => proc_unique h hi hj, fun hi hj h1 h2 => finish_unique h hi hj h1 h2, ?_, ?_,
    (inv_proc_queue_nodup h).2.1, fun hq hp => inv_queue_not_processed h hq hp⟩
  · intro i j o o' hi hj
    cases finish_unique h hi hj rfl rfl
    cases hi.symm.trans hj
    exact ⟨rfl, rfl⟩
  · intro i j o hi hj
    cases finish_unique h hi hj rfl rfl
    cases hi.symm.trans hj

/-- **C10 (back-pressure).**  `enq` is enabled only below `cap` (a caller whose message does not
    fit stays `sending`: it waits); the queue never exceeds `cap`; a `sending` client stays
    `sending` at the same request — nothing is dropped — until its own `enq`, `cancel` or `fail`;
    and its `enq` puts exactly that request at the tail of the queue. -/
theorem C10_backpressure (h : Reach M n l0 s) :
    s.queue.length ≤ M.cap ∧
    (∀ c s', Step M s (.enq c) s' → s.queue.length < M.cap) ∧
    (∀ c, M.cap ≤ s.queue.length → step? M s (.enq c) = none) ∧
    (∀ c pc lb s', s.clients[c]? = some ⟨pc, .sending⟩ → Step M s lb s' →
      s'.clients[c]? = some ⟨pc, .sending⟩ ∨ lb = .enq c ∨ lb = .cancel c ∨ lb = .fail c) ∧
    (∀ c pc s', s.clients[c]? = some ⟨pc, .sending⟩ → Step M s (.enq c) s' →
      ∃ r, (M.prog c)[pc]? = some r ∧ s'.queue = s.queue ++ [((c, pc), r)] ∧
        s'.clients[c]? = some ⟨pc, .waiting⟩) := by
  refine ⟨inv_queue_le_cap h, ?_, ?_, ?_, ?_⟩
  · intro c s' hst
    cases hst
    assumption
  · intro c hfull
    refine Option.eq_none_iff_forall_ne_some.mpr fun s' hs => ?_
    cases step?_iff.mp hs
    exact Nat.not_lt_of_ge hfull ‹_›
  · intro c pc lb s' hc hst
    cases hst
    case proc | actorPanic => exact .inl hc
    -- a rule that moves client `c'`: either `c' ≠ c`, or its guard on `c'` must agree with `hc`
    case call c' _ _ hc' _ | enq c' _ _ hc' _ _ _ | ret c' _ _ hc' _ | cancelSend c' _ hc' |
        cancelWait c' _ hc' | failSend c' _ hc' _ | failWait c' _ hc' _ _ =>
      by_cases hcc : c' = c
      · subst hcc
        cases hc.symm.trans hc' <;> simp only [eq_self, true_or, or_true]
      · exact .inl (by rw [List.getElem?_set_ne hcc]; exact hc)
  · intro c pc s' hc hst
    cases hst
    case enq pc' r hcap ha hc' hr =>
      cases hc.symm.trans hc'
      exact ⟨r, hr, rfl, by simp [(List.getElem?_eq_some_iff.mp hc).1]⟩

/-- **C10 (no deadlock).**  In every reachable state (queue capacity ≥ 1):
    1. if the actor is alive and some client is not finished (it is `sending`/`waiting` or has
       requests left), a transition that makes progress — `call`, `enq`, `proc` (`actorPanic` if
       the library call panics) or `ret`, not merely `cancel` — is enabled;
    2. if the actor is dead, an unfinished client can still move on (`call`, `ret` or `fail`);
    3. `measure` strictly decreases on every transition, so every run from `s` has at most
       `measure M s` steps;
    4. in a final state (no transition enabled) with the actor alive the queue is empty and every
       request of every program has been finished exactly once, by a `ret` (with the response of
       its `proc`, see `C09_delivery`) or by the client's own `cancel`. -/
theorem C10_no_deadlock (h : Reach M n l0 s) (hcap : 1 ≤ M.cap) :
    (s.alive = true → ∀ c cl, s.clients[c]? = some cl → (cl.st ≠ .idle ∨ cl.pc < (M.prog c).length) →
      ∃ lb s', Step M s lb s' ∧ lb.progress) ∧
    (s.alive = false → ∀ c cl, s.clients[c]? = some cl → (cl.st ≠ .idle ∨ cl.pc < (M.prog c).length) →
      ∃ lb s', Step M s lb s' ∧ (lb = .call c ∨ lb = .ret c ∨ lb = .fail c)) ∧
    (∀ lb s', Step M s lb s' → measure M s' < measure M s) ∧
    (∀ lbs s', Run M s lbs s' → lbs.length ≤ measure M s) ∧
    (s.alive = true → (∀ lb s', ¬ Step M s lb s') →
      s.queue = [] ∧
      ∀ c, c < n → ∀ i, i < (M.prog c).length →
        ∃ (k : Nat) (e : Event Rq Rs), s.log[k]? = some e ∧
          ((∃ o, e = Event.ret (c, i) o) ∨ e = Event.cancelSend (c, i) ∨ e = Event.cancelWait (c, i)) ∧
          ∀ (k' : Nat) (e' : Event Rq Rs), s.log[k']? = some e' → e'.finishes (c, i) → k' = k) := by
  refine ⟨fun ha c cl hc hb => progress h hcap ha hc hb, ?_, fun lb s' hst => measure_decreases hst,
    fun lbs s' hr => Nat.le_trans (Nat.le_add_right _ _) (run_length_le_measure hr), ?_⟩
  · intro ha c cl hc hb
    obtain ⟨pc, st⟩ := cl
    cases st with
    | idle => exact ⟨.call c, _, .call hc (List.getElem?_eq_getElem (hb.resolve_left fun h => h rfl)), .inl rfl⟩
    | sending => exact ⟨.fail c, _, .failSend hc ha, .inr (.inr rfl)⟩
    | waiting =>
      cases hf : findReply (c, pc) s.replies with
      | none => exact ⟨.fail c, _, .failWait hc ha hf, .inr (.inr rfl)⟩
      | some rs => exact ⟨.ret c, _, .ret hc hf, .inr (.inl rfl)⟩
  · intro ha hfinal
    have hidle : ∀ c cl, s.clients[c]? = some cl → (M.prog c).length ≤ cl.pc :=
      fun c cl hc => Nat.le_of_not_lt fun hlt =>
        let ⟨lb, s', hst, _⟩ := progress h hcap ha hc (.inr hlt)
        hfinal lb s' hst
    constructor
    · cases hq : s.queue with
      | nil => rfl
      | cons x q =>
        obtain ⟨lb, s', hst, -⟩ := actor_enabled ha hq
        exact absurd hst (hfinal lb s')
    · intro c hc i hi
      have hlt : c < s.clients.length := by rw [inv_clients_length h]; exact hc
      have hget := List.getElem?_eq_getElem hlt
      obtain ⟨e, he, hfin⟩ :=
        (inv_client h hget (List.Subset.refl _)).1 i (Nat.lt_of_lt_of_le hi (hidle c _ hget))
      obtain ⟨k, hk⟩ := List.getElem?_of_mem he
      refine ⟨k, e, hk, ?_, fun k' e' hk' hf' => finish_unique h hk' hk hf' hfin⟩
      cases e <;> simp only [Event.finishes] at hfin <;> subst hfin
      case ret o => exact .inl ⟨o, rfl⟩
      case cancelSend => exact .inr (.inl rfl)
      case cancelWait => exact .inr (.inr rfl)
      case fail => exact absurd he (not_failed_of_alive h ha)

/-- progress with a total limiter (the real code's C08; the GCRA model is total): one of
    `call` / `enq` / `proc` / `ret` is enabled -/
theorem C10_no_deadlock_total (htot : Total M.lim) (h : Reach M n l0 s) (hcap : 1 ≤ M.cap)
    {c : Nat} {cl : Cl} (hc : s.clients[c]? = some cl)
    (hbusy : cl.st ≠ .idle ∨ cl.pc < (M.prog c).length) :
    ∃ lb s', Step M s lb s' ∧ ((∃ c', lb = .call c') ∨ (∃ c', lb = .enq c') ∨ lb = .proc ∨ ∃ c', lb = .ret c') := by
  obtain ⟨lb, s', hst, hp⟩ := (C10_no_deadlock h hcap).1 (inv_alive_of_total htot h) c cl hc hbusy
  refine ⟨lb, s', hst, ?_⟩
  cases lb with
  | call c' => exact .inl ⟨c', rfl⟩
  | enq c' => exact .inr (.inl ⟨c', rfl⟩)
  | proc => exact .inr (.inr (.inl rfl))
  | ret c' => exact .inr (.inr (.inr ⟨c', rfl⟩))
  | actorPanic =>
    cases hst
    exact absurd ‹_ = none› (htot _ _)
  | cancel c' | fail c' => exact hp.elim

/-- **C10 (FIFO).**  Requests are processed in the order they were enqueued: the sequence of
    enqueued requests is the sequence of processed requests followed by the queue content; and, on
    log positions, a request enqueued before a processed one was processed before it. -/
theorem C10_fifo (h : Reach M n l0 s) :
    enqLog s.log = (procLog s.log).map (fun p => (p.1, p.2.1)) ++ s.queue ∧
    (∀ {i j q : Nat} {a b : Id} {ra rb rb' : Rq} {ob : Rs},
      s.log[i]? = some (.enq a ra) → s.log[j]? = some (.enq b rb) → i < j →
      s.log[q]? = some (.proc b rb' ob) → ∃ p, p < q ∧ ∃ oa, s.log[p]? = some (.proc a ra oa)) :=
  ⟨inv_fifo h, fun hi hj hij hq => fifo_pos h hi hj hij hq⟩

/-- **C10 (cancel non-interference).**
    (a) *Cancelling before `enq`* is indistinguishable from the request never having been in the
        program: the `cancel` transition (and the `call` before it) changes nothing but the
        client's own position and the ghost log — queue, limiter, slots and every other client are
        untouched — and in every later state the request is neither enqueued, nor queued, nor
        processed, nor answered, so the `proc` log (hence, by `C09_sequential`/`C09_delivery`, the
        limiter accounting and every response) does not contain it.
    (b) *Cancelling after `enq`* leaves the queue, the limiter and the `proc` log exactly as if the
        client had kept waiting: the transition touches only the client's own position and its own
        one-shot slot; the request stays enqueued and is processed in its turn; the `proc` step
        computes the same limiter state and logs the same response whether or not the slot was
        abandoned; and in every reachable state the `proc` log is the sequential run of the limiter
        over a prefix of the `enq` log — it depends on which requests were enqueued and in which
        order, and on nothing else. -/
theorem C10_cancel_noninterference (h : Reach M n l0 s) :
    -- (a) local effect of `call` and of `cancel` before `enq`
    (∀ c s', Step M s (.call c) s' →
      s'.queue = s.queue ∧ s'.lim = s.lim ∧ s'.replies = s.replies ∧ s'.abandoned = s.abandoned ∧
      s'.alive = s.alive ∧ procLog s'.log = procLog s.log ∧ enqLog s'.log = enqLog s.log ∧
      ∀ c', c' ≠ c → s'.clients[c']? = s.clients[c']?) ∧
    (∀ c pc s', s.clients[c]? = some ⟨pc, .sending⟩ → Step M s (.cancel c) s' →
      s'.queue = s.queue ∧ s'.lim = s.lim ∧ s'.replies = s.replies ∧ s'.abandoned = s.abandoned ∧
      s'.alive = s.alive ∧ procLog s'.log = procLog s.log ∧ enqLog s'.log = enqLog s.log ∧
      (∀ c', c' ≠ c → s'.clients[c']? = s.clients[c']?) ∧ Event.cancelSend (c, pc) ∈ s'.log) ∧
    -- (a) global: a request cancelled before `enq` never reaches the limiter
    (∀ id, Event.cancelSend id ∈ s.log →
      (∀ r, Event.enq id r ∉ s.log) ∧ (∀ r, (id, r) ∉ s.queue) ∧
      (∀ r o, Event.proc id r o ∉ s.log) ∧ (∀ o, Event.ret id o ∉ s.log)) ∧
    -- (b) local effect of `cancel` after `enq`
    (∀ c pc s', s.clients[c]? = some ⟨pc, .waiting⟩ → Step M s (.cancel c) s' →
      s'.queue = s.queue ∧ s'.lim = s.lim ∧ s'.alive = s.alive ∧
      procLog s'.log = procLog s.log ∧ enqLog s'.log = enqLog s.log ∧
      (∀ id, id ≠ (c, pc) → findReply id s'.replies = findReply id s.replies) ∧
      (∀ c', c' ≠ c → s'.clients[c']? = s.clients[c']?) ∧ Event.cancelWait (c, pc) ∈ s'.log) ∧
    -- (b) the `proc` step does not depend on the slots
    (∀ (s2 s' : State L Rq Rs), s2.queue = s.queue → s2.lim = s.lim → s2.alive = s.alive →
      Step M s .proc s' → ∃ s2', Step M s2 .proc s2' ∧ s2'.queue = s'.queue ∧ s2'.lim = s'.lim ∧
        s2'.log.getLast? = s'.log.getLast?) ∧
    -- (b) global: a request cancelled after `enq` is still queued or has been processed
    (∀ id, Event.cancelWait id ∈ s.log → ∃ r, (id, r) ∈ s.queue ∨ ∃ o, Event.proc id r o ∈ s.log) ∧
    -- (a)+(b) global: the `proc` log is determined by the sequence of enqueued requests alone
    ((procLog s.log).map (fun p => (p.1, p.2.1)) = (enqLog s.log).take (procLog s.log).length ∧
     seqRun M.lim l0 (((enqLog s.log).take (procLog s.log).length).map (·.2))
       = some (s.lim, (procLog s.log).map (·.2.2))) := by
  refine ⟨?_, ?_, ?_, ?_, ?_, ?_, ?_⟩
  · intro c s' hst
    cases hst
    exact ⟨rfl, rfl, rfl, rfl, rfl, by simp [procLog], by simp [enqLog],
      fun c' hne => List.getElem?_set_ne (Ne.symm hne)⟩
  · intro c pc s' hc hst
    cases hst.det (.cancelSend hc)
    exact ⟨rfl, rfl, rfl, rfl, rfl, by simp [procLog], by simp [enqLog],
      fun c' hne => List.getElem?_set_ne (Ne.symm hne), List.mem_concat_self⟩
  · intro id hcs
    have hne : ∀ r, Event.enq id r ∉ s.log := fun r he => no_enq_of_cancelSend h hcs he
    have hnp : ∀ r o, Event.proc id r o ∉ s.log := fun r o hp =>
      hne r ((inv_enq_iff h).mpr (.inl ⟨o, hp⟩))
    refine ⟨hne, fun r hq => hne r ((inv_enq_iff h).mpr (.inr hq)), hnp, fun o hr => ?_⟩
    obtain ⟨k, hk⟩ := List.getElem?_of_mem hr
    obtain ⟨j, _, r, hj⟩ := ret_after_proc h hk
    exact hnp r o (List.mem_of_getElem? hj)
  · intro c pc s' hc hst
    cases hst.det (.cancelWait hc)
    exact ⟨rfl, rfl, rfl, by simp [procLog], by simp [enqLog], fun id hne => findReply_dropReply_ne hne _,
      fun c' hne => List.getElem?_set_ne (Ne.symm hne), List.mem_concat_self⟩
  · intro s2 s' hq hl ha hst
    cases hst with
    | proc ha' hq' hs' =>
      exact ⟨_, .proc (ha.trans ha') (hq.trans hq') (by rw [hl]; exact hs'), rfl, rfl, by simp⟩
  · intro id hcw
    obtain ⟨k, hk⟩ := List.getElem?_of_mem hcw
    obtain ⟨j, _, r, hj⟩ := cancelWait_after_enq h hk
    exact ⟨r, ((inv_enq_iff h).mp (List.mem_of_getElem? hj)).symm⟩
  · have htake : (enqLog s.log).take (procLog s.log).length = (procLog s.log).map (fun p => (p.1, p.2.1)) := by
      rw [inv_fifo h]
      exact List.take_left' (List.length_map _)
    exact ⟨htake.symm, by rw [htake, List.map_map]; exact inv_sequential h⟩

/-- back-pressure: at capacity 1 client 1's `enq` is disabled until the `proc` -/
example :
    (run? toySys (init 2 0) [.call 0, .call 1, .enq 0]).bind (fun s => step? toySys s (.enq 1)) = none ∧
    ((run? toySys (init 2 0) [.call 0, .call 1, .enq 0]).map (fun s => s.clients[1]?)) = some (some ⟨0, .sending⟩) ∧
    ((run? toySys (init 2 0) [.call 0, .call 1, .enq 0, .proc, .enq 1]).map (fun s => s.queue)) = some [((1, 0), 1)] := by
  decide

/-- the request cancelled after `enq` is processed all the same and its reply discarded; the final
    state is final: no label of the two clients is enabled -/
example :
    (run? toySys (init 2 0) toyLabels).map (fun s => procLog s.log) =
      some [((0, 0), 1, true), ((1, 0), 1, false)] ∧
    (run? toySys (init 2 0) toyLabels).map (fun s => (s.replies, s.abandoned, s.queue)) =
      some ([], [(1, 0)], []) ∧
    ((run? toySys (init 2 0) toyLabels).map (fun s =>
      ([Label.call 0, .call 1, .enq 0, .enq 1, .proc, .actorPanic, .ret 0, .ret 1, .cancel 0, .cancel 1,
        .fail 0, .fail 1].all (fun lb => (step? toySys s lb).isNone))) = some true) ∧
    toyLabels.length ≤ measure toySys (init 2 0 : State Nat Nat Bool) :=
  ⟨rfl, rfl, rfl, by decide⟩

end TcVerif.Actor
