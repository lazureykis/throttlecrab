/-
  C15 — Metrics add up and match what clients were told.

  Concurrency model (`Model/Metrics.lean`): any number of `record_request` / `record_error` calls
  in flight, each a list of atomic increments in program order; `Reachable` = every interleaving.
-/
import TcVerif.Lemmas.MetricsCounters
import TcVerif.Lemmas.MetricsResp

namespace TcVerif.Metrics
open TcVerif.Gen

/-- every reachable state, ANY interleaving, in-flight calls accounted for:
    counter + increments still owed by calls in flight = increments of all calls started -/
theorem C15_accounting {s : State} (hr : Reachable s) (c : Counter) :
    s.counters.get c + pending s.flights c = due s.history c :=
  (inv_of_reachable hr).1 c

/-- whenever no request is in flight: total = HTTP + gRPC + RESP = allowed + denied + errors -/
theorem C15_identities {s : State} (hr : Reachable s) (hq : Quiescent s) :
    s.counters.total = s.counters.http + s.counters.grpc + s.counters.redis ∧
    s.counters.total = s.counters.allowed + s.counters.denied + s.counters.errors := by
  have h1 := due_total_eq incs_count_total_eq_transports s.history
  have h2 := due_total_eq incs_count_total_eq_outcomes s.history
  simp only [← get_eq_due hr hq] at h1 h2
  exact ⟨h1, h2⟩

/-- even with requests in flight (every call bumps `total` FIRST) the breakdowns never exceed
    the total -/
theorem C15_inflight_le_total {s : State} (hr : Reachable s) :
    s.counters.http + s.counters.grpc + s.counters.redis ≤ s.counters.total ∧
    s.counters.allowed + s.counters.denied + s.counters.errors ≤ s.counters.total := by
  have hi := inv_of_reachable hr
  exact ⟨breakdown_le_total incs_count_total_eq_transports hi,
    breakdown_le_total incs_count_total_eq_outcomes hi⟩

/-- counters never decrease: every step of every recorder leaves every counter ≥ its old value -/
theorem C15_monotone {s s' : State} (h : Step s s') (c : Counter) :
    s.counters.get c ≤ s'.counters.get c := by
  cases h with
  | start e => exact Nat.le_refl _
  | inc pre post e x rest hf => exact get_bump .. ▸ Nat.le_add_right ..
  | finish pre post e hf => exact Nat.le_refl _

/-- at a quiescent point the counters are exactly the numbers of calls of each kind that were
    made: `denied` = denied decisions, `allowed` = allowed decisions, `errors` = errors,
    transport counters = calls per transport, `total` = all calls -/
theorem C15_denied_exact {s : State} (hr : Reachable s) (hq : Quiescent s) :
    s.counters.denied = s.history.countP Event.isDenied ∧
    s.counters.allowed = s.history.countP Event.isAllowed ∧
    s.counters.errors = s.history.countP Event.isError ∧
    s.counters.http = s.history.countP (Event.onTransport .http) ∧
    s.counters.grpc = s.history.countP (Event.onTransport .grpc) ∧
    s.counters.redis = s.history.countP (Event.onTransport .redis) ∧
    s.counters.total = s.history.length := by
  have g := get_eq_due hr hq
  exact ⟨(g .denied).trans (due_eq_countP _ _ _ incs_count_denied),
    (g .allowed).trans (due_eq_countP _ _ _ incs_count_allowed),
    (g .errors).trans (due_eq_countP _ _ _ incs_count_errors),
    (g .http).trans (due_eq_countP _ _ _ (incs_count_transport .http)),
    (g .grpc).trans (due_eq_countP _ _ _ (incs_count_transport .grpc)),
    (g .redis).trans (due_eq_countP _ _ _ (incs_count_transport .redis)),
    (g .total).trans (due_total _)⟩

/-- so `allowed + errors` is everything that was not a denied decision -/
theorem C15_allowed_errors_rest {s : State} (hr : Reachable s) (hq : Quiescent s) :
    s.counters.allowed + s.counters.errors
      = s.history.length - s.history.countP Event.isDenied := by
  obtain ⟨hd, -, -, -, -, -, ht⟩ := C15_denied_exact hr hq
  rw [← hd, ← ht, (C15_identities hr hq).2, Nat.add_right_comm, Nat.add_sub_cancel]

/-- the sequential run used by the differential harness (`mrun`) is the same accounting -/
theorem C15_sequential (es : List Event) (c : Counter) :
    ((Counters.recordAll {} es).get c) = due es c := by
  rw [get_recordAll]; cases c <;> simp [Counters.get]

/-- the three early returns of the RESP command handler (value not an array, empty array, first
    element not a non-null bulk string) record nothing: they answer with a fixed protocol error,
    send nothing to the limiter and return no decision - so recording no event keeps every
    identity of `C15_identities` and `C15_denied_exact`; every other command is recorded
    (classified by `C15_resp_classification`). -/
theorem C15_resp_uncounted (v : Resp.Value) (upper : Option (List UInt8)) (h : Resp.counted v upper = false) :
    Resp.plan v upper = .reply (.error b!"ERR expected array of commands") ∨
    Resp.plan v upper = .reply (.error b!"ERR empty command") ∨
    Resp.plan v upper = .reply (.error b!"ERR invalid command format") := by
  fun_cases Resp.plan v upper
  -- once a command name has been read `counted` is true; the three early returns are left
  any_goals (cases h; done)
  · exact .inr (.inl rfl)
  · exact .inr (.inr rfl)
  · exact .inl rfl

/-- RESP command layer: the recorded call is `request redis false` exactly when the command was a
    THROTTLE that was sent to the limiter and answered `ok false ..`; every other command (PING
    with any arguments, QUIT, unknown, malformed THROTTLE, limiter error, no answer) records
    `request redis true`; a denied decision's key is the key that goes to the tracker. -/
theorem C15_resp_classification (v : Resp.Value) (upper : Option (List UInt8))
    (a : Option Resp.ActorAnswer) :
    (respEvent v upper a = .request .redis false ↔
      ∃ req l r rs rt, Resp.plan v upper = .send req ∧ a = some (.ok false l r rs rt)) ∧
    (respEvent v upper a ≠ .request .redis false → respEvent v upper a = .request .redis true) ∧
    (∀ req, Resp.plan v upper = .send req →
      (∃ c rest, v = .array (.bulk (some c) :: rest) ∧ upper = some b!"THROTTLE" ∧
        Resp.handleThrottle (.bulk (some c) :: rest) = .send req) ∧
      respKey v upper a = some req.key) := by
  refine ⟨?_, ?_, ?_⟩
  · rw [← metric_allowed_false_iff]
    simp [respEvent]
  · intro h
    simp only [respEvent, ne_eq, Event.request.injEq, true_and] at h ⊢
    simpa using h
  · intro req hp
    exact ⟨Resp.plan_send_is_throttle hp, metric_key_of_send a hp⟩

/-- instances named in the property: whatever is not sent to the limiter is recorded allowed -/
theorem C15_resp_not_sent_allowed (v : Resp.Value) (upper : Option (List UInt8))
    (a : Option Resp.ActorAnswer) (reply : Resp.Value) (h : Resp.plan v upper = .reply reply) :
    respEvent v upper a = .request .redis true := by
  apply (C15_resp_classification v upper a).2.1
  intro hd
  obtain ⟨req, _, _, _, _, hp, _⟩ := (C15_resp_classification v upper a).1.1 hd
  rw [h] at hp; cases hp

/-- a limiter error, an allowed answer, or no answer at all is recorded allowed -/
theorem C15_resp_error_allowed (v : Resp.Value) (upper : Option (List UInt8)) :
    (∀ msg, respEvent v upper (some (.err msg)) = .request .redis true) ∧
    (∀ l r rs rt, respEvent v upper (some (.ok true l r rs rt)) = .request .redis true) ∧
    respEvent v upper none = .request .redis true := by
  refine ⟨fun msg => ?_, fun l r rs rt => ?_, ?_⟩ <;>
  · apply (C15_resp_classification v upper _).2.1
    intro hd
    obtain ⟨_, _, _, _, _, _, ha⟩ := (C15_resp_classification v upper _).1.1 hd
    cases ha

/-- `/metrics` reports exactly the seven counter values, in file order -/
theorem C15_export_values (c : Counters) :
    (exportCounters c).map (·.2)
      = [c.total, c.http, c.grpc, c.redis, c.allowed, c.denied, c.errors] ∧
    (exportCounters c).map (·.1)
      = ["throttlecrab_requests_total",
         "throttlecrab_requests_by_transport{transport=\"http\"}",
         "throttlecrab_requests_by_transport{transport=\"grpc\"}",
         "throttlecrab_requests_by_transport{transport=\"redis\"}",
         "throttlecrab_requests_allowed",
         "throttlecrab_requests_denied",
         "throttlecrab_requests_errors"] :=
  ⟨rfl, rfl⟩

/-- the model's increment lists are the ones extracted from the Rust source on this run: the
    sorted, de-duplicated names of all counters `recordRequest` / `recordError` can bump over all
    (transport, outcome) equal the generated tables (a dropped or added `fetch_add` breaks this) -/
theorem C15_table_tie :
    recordRequestIncs = RECORD_REQUEST_INCS ∧ recordErrorIncs = RECORD_ERROR_INCS := by
  decide +kernel

/-- the event an HTTP / gRPC handler records for one request: the limiter's decision if it answered,
    an error otherwise (the handlers record AFTER the decision is known) -/
def handlerEvent (t : Transport) (decision : Option Bool) : Event :=
  match decision with
  | some allowed => .request t allowed
  | none => .error t

/-- **tie**: in both handlers the `Ok` arm records the decision's own `allowed` flag with the request
    key under the handler's transport, the `Err` arm records an error, and nothing else is recorded -/
theorem C15_tie_http_grpc_calls :
    Gen.HTTP_METRIC_CALLS = [("err", "record_error(Http)"), ("ok", "record_request_with_key(Http, allowed, key)")] ∧
    Gen.GRPC_METRIC_CALLS = [("err", "record_error(Grpc)"), ("ok", "record_request_with_key(Grpc, allowed, key)")] ∧
    Gen.RESP_METRIC_CALLS = ["record_request_with_key(Redis, allowed, key)", "record_request(Redis, allowed)"] :=
  ⟨rfl, rfl, rfl⟩

/-- HTTP / gRPC: `denied` is recorded exactly for a decision with `allowed = false`; a limiter error
    is recorded as an error, never as allowed or denied -/
theorem C15_http_grpc_classification (t : Transport) (decision : Option Bool) :
    (handlerEvent t decision = .request t false ↔ decision = some false) ∧
    (handlerEvent t decision = .error t ↔ decision = none) ∧
    (handlerEvent t decision = .request t true ↔ decision = some true) := by
  cases decision with
  | none => simp [handlerEvent]
  | some b => cases b <;> simp [handlerEvent]

/-- a reachable quiescent state after a truly interleaved run: a denied HTTP request and a gRPC
    error whose increments alternate -/
example : ∃ s, Reachable s ∧ Quiescent s ∧
    s.counters = { total := 2, http := 1, grpc := 1, denied := 1, errors := 1 } ∧
    s.history = [.error .grpc, .request .http false] := by
  refine ⟨⟨{ total := 2, http := 1, grpc := 1, denied := 1, errors := 1 },
    [⟨.error .grpc, []⟩, ⟨.request .http false, []⟩],
    [.error .grpc, .request .http false]⟩, ?_, ?_, ?_, ?_⟩
  · exact
      (((((((Reachable.init.step (.start _ (.request .http false))).step
        (.start _ (.error .grpc))).step
        (.inc _ [] [⟨.request .http false, [.total, .http, .denied]⟩] (.error .grpc) .total
          [.errors, .grpc] rfl)).step
        (.inc _ [⟨.error .grpc, [.errors, .grpc]⟩] [] (.request .http false) .total
          [.http, .denied] rfl)).step
        (.inc _ [⟨.error .grpc, [.errors, .grpc]⟩] [] (.request .http false) .http
          [.denied] rfl)).step
        (.inc _ [] [⟨.request .http false, [.denied]⟩] (.error .grpc) .errors [.grpc] rfl)).step
        (.inc _ [] [⟨.request .http false, [.denied]⟩] (.error .grpc) .grpc [] rfl)).step
        (.inc _ [⟨.error .grpc, []⟩] [] (.request .http false) .denied [] rfl)
  · intro f hf
    simp at hf
    rcases hf with rfl | rfl <;> rfl
  · rfl
  · rfl

/-- a reachable NON-quiescent state where the identities fail (they are only claimed at quiescent
    points): `total` was bumped, the transport counter not yet -/
example : ∃ s, Reachable s ∧ ¬ Quiescent s ∧
    s.counters.total ≠ s.counters.http + s.counters.grpc + s.counters.redis := by
  refine ⟨_, (Reachable.init.step (.start _ (.request .redis true))).step
    (.inc _ [] [] (.request .redis true) .total [.redis, .allowed] rfl), ?_, by decide⟩
  intro h
  have := h ⟨.request .redis true, [.redis, .allowed]⟩ (by simp)
  cases this

example : ∃ s s', Step s s' ∧ s.counters.get .total < s'.counters.get .total :=
  ⟨⟨{}, [⟨.error .http, [.total, .errors, .http]⟩], [.error .http]⟩, _,
    .inc _ [] [] (.error .http) .total [.errors, .http] rfl, by decide⟩

example : respEvent (.array [.bulk (some b!"PING"), .array [.int 0, .int 0, .int 0, .int 0, .int 0]])
    (some b!"PING") none = .request .redis true := by decide

example : respEvent
    (.array [.bulk (some b!"throttle"), .bulk (some b!"k"), .int 1, .int 1, .int 60])
    (some b!"THROTTLE") (some (.ok false 2 0 60 60)) = .request .redis false := by decide

example : respKey
    (.array [.bulk (some b!"throttle"), .bulk (some b!"k"), .int 1, .int 1, .int 60])
    (some b!"THROTTLE") (some (.ok false 2 0 60 60)) = some b!"k" := by decide

example : (exportCounters ⟨7, 3, 2, 2, 3, 2, 2⟩).map (·.2) = [7, 3, 2, 2, 3, 2, 2] := by decide

end TcVerif.Metrics
