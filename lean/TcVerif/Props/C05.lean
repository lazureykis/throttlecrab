/-
  C05 — Key isolation: traffic on one key never affects another.

  Keys are arbitrary strings compared for exact equality (the model never looks inside a key,
  so "empty, very long, Unicode, differing in one byte" are all just "different keys").
  The theorems quantify over every multi-key history with globally non-decreasing timestamps
  (any length, any number of distinct keys, any limits per request - valid or not), every store
  kind / configuration / cleanup schedule, and every key.
-/
import TcVerif.Lemmas.Cell
namespace TcVerif

/-- **Key isolation, as a projection**: on a fresh store of any kind the responses for key `k` are
    those of the single cell of `k` fed with the requests whose key is exactly `k`. -/
theorem C05_projection_to_cell (ei : Int → Int → Int) (k : Key) (rs : List Req) (t0 : Int)
    (st : AnyStore) (hst : st.data = []) (hm : MonotoneFrom t0 rs) :
    (runTagged AnyStore.ops ei st rs).filter (fun p => p.1.key = k)
      = runTagged Cell.ops ei none (rs.filter (fun r => r.key = k)) := by
  rw [runTagged_fresh ei rs t0 st hst hm]
  exact runTagged_project ei k rs AMap.empty

/-- **C05.** For every multi-key history with non-decreasing timestamps, every store (any kind,
    configuration, cleanup schedule) and every key `k`: the responses for `k` in the interleaved
    run equal the responses of `k`'s own requests run alone - on the same or on any other store. -/
theorem C05_key_isolation (ei : Int → Int → Int) (k : Key) (rs : List Req) (t0 : Int)
    (st st' : AnyStore) (hst : st.data = []) (hst' : st'.data = []) (hm : MonotoneFrom t0 rs) :
    (runTagged AnyStore.ops ei st rs).filter (fun p => p.1.key = k)
      = runTagged AnyStore.ops ei st' (rs.filter (fun r => r.key = k)) := by
  rw [C05_projection_to_cell ei k rs t0 st hst hm]
  exact (runTagged_single_key ei k _ t0 st' hst' (monotoneFrom_filter _ t0 rs hm)
    (fun r hr => of_decide_eq_true (List.mem_filter.mp hr).2)).symm

/-- the other keys' traffic may use any limits at all, valid or not: nothing is assumed about them -/
example : ∃ rs : List Req, MonotoneFrom 0 rs ∧ rs.length = 4 ∧
    (runTagged AnyStore.ops (fun c p => p * 1000000000 / c) (.prob ⟨[], 0, 1⟩) rs).filter (fun p => p.1.key = "k")
      = runTagged AnyStore.ops (fun c p => p * 1000000000 / c) (.periodic ⟨[], 0, 0, 0⟩) (rs.filter (fun r => r.key = "k")) :=
  ⟨[⟨"k", 2, 1, 1, 1, 10⟩, ⟨"other", -5, 0, 0, 7, 10⟩, ⟨"kk", 1, 1, 1, 1, 11⟩, ⟨"k", 2, 1, 1, 2, 12⟩],
   by decide, rfl, by decide⟩

end TcVerif
