/-
  C06 — Stores are interchangeable: each is exactly a map with per-entry expiry.

  Model: `TcVerif/Model/Store.lean` (the three concrete stores with their full cleanup
  scheduling state, and `AMap`, the abstract expiring map that never sweeps).
  Every theorem quantifies over ALL store states / configurations (any `nextCleanup`,
  intervals incl. 0 and min > max, operation budget, modulus 0/1/N, any value of the
  table-pressure oracle stream), all keys, all `Int` values and TTLs, and all operation
  sequences with non-decreasing timestamps — no bound on length.
-/
import TcVerif.Lemmas.LimiterSim
namespace TcVerif
open Data

/-- **Refinement.** Any concrete store (any kind, any configuration and scheduling state) whose
    table currently shows the same visible entries as an abstract map answers every sequence of
    get / set-if-absent / compare-and-swap with non-decreasing timestamps exactly as the abstract
    map does. -/
theorem C06_refines_abstract_map (st : AnyStore) (a : AMap) (t0 : Int) (ops : List SOp)
    (hsim : SimStore t0 st a) (hmono : NonDecreasingFrom t0 (ops.map (·.now))) :
    runOps AnyStore.ops st ops = runOps AMap.ops a ops :=
  runOps_sim anyStore_sim_amap ops t0 st a hsim hmono

theorem C06_periodic_refines (nextCleanup interval : Int) (expired : Nat) (t0 : Int) (ops : List SOp)
    (hmono : NonDecreasingFrom t0 (ops.map (·.now))) :
    runOps AnyStore.ops (.periodic ⟨[], nextCleanup, interval, expired⟩) ops = runOps AMap.ops AMap.empty ops :=
  C06_refines_abstract_map _ _ t0 ops (simStore_fresh _ rfl t0) hmono

theorem C06_adaptive_refines (nextCleanup minI maxI curI : Int) (expired opsSince maxOps lastRem lastTot : Nat)
    (oracle : List Bool) (t0 : Int) (ops : List SOp)
    (hmono : NonDecreasingFrom t0 (ops.map (·.now))) :
    runOps AnyStore.ops (.adaptive ⟨[], nextCleanup, minI, maxI, curI, expired, opsSince, maxOps, lastRem, lastTot, oracle⟩) ops
      = runOps AMap.ops AMap.empty ops :=
  C06_refines_abstract_map _ _ t0 ops (simStore_fresh _ rfl t0) hmono

theorem C06_probabilistic_refines (opsCount modulus : Nat) (t0 : Int) (ops : List SOp)
    (hmono : NonDecreasingFrom t0 (ops.map (·.now))) :
    runOps AnyStore.ops (.prob ⟨[], opsCount, modulus⟩) ops = runOps AMap.ops AMap.empty ops :=
  C06_refines_abstract_map _ _ t0 ops (simStore_fresh _ rfl t0) hmono

/-- a value is visible at `now` exactly while `now` is before its expiry instant -/
theorem C06_get_visible_iff (a : AMap) (k : Key) (now : Int) :
    AMap.ops.get a k now = (match a.data.find k with
      | some (v, exp) => if now < exp then some v else none
      | none => none) :=
  rfl

/-- set-if-absent succeeds exactly when no value is visible -/
theorem C06_setnx_succeeds_iff (a : AMap) (k : Key) (v ttl now : Int) :
    (AMap.ops.setnx a k v ttl now).2 = (AMap.ops.get a k now).isNone := by
  rw [show AMap.ops.setnx a k v ttl now = _ from AMap.put_eq a k none v ttl now]
  simp only [AMap.ops]
  cases a.data.get k now <;> rfl

/-- compare-and-swap succeeds exactly when the visible value equals the expected one -/
theorem C06_cas_succeeds_iff (a : AMap) (k : Key) (old new ttl now : Int) :
    (AMap.ops.cas a k old new ttl now).2 = true ↔ AMap.ops.get a k now = some old := by
  rw [show AMap.ops.cas a k old new ttl now = _ from AMap.put_eq a k (some old) new ttl now]
  exact decide_eq_true_iff

/-- a successful write replaces value and expiry; a failed one changes nothing -/
theorem C06_write_effect (a : AMap) (k : Key) (old new ttl now : Int) :
    (AMap.ops.cas a k old new ttl now).2 = true →
      (AMap.ops.cas a k old new ttl now).1.data.find k = some (new, now + ttl) := by
  rw [show AMap.ops.cas a k old new ttl now = _ from AMap.put_eq a k (some old) new ttl now]
  intro h
  dsimp only
  rw [if_pos (of_decide_eq_true h), find_insert, if_pos rfl]

theorem C06_failed_write_no_effect (a : AMap) (k : Key) (old new ttl now : Int) :
    (AMap.ops.cas a k old new ttl now).2 = false → (AMap.ops.cas a k old new ttl now).1 = a := by
  rw [show AMap.ops.cas a k old new ttl now = _ from AMap.put_eq a k (some old) new ttl now]
  intro h
  dsimp only
  rw [if_neg (of_decide_eq_false h)]

/-- **Cleanup is invisible**: a sweep performed at `t` never removes an entry that is visible
    at any `now ≥ t` and never revives an expired one. -/
theorem C06_cleanup_invisible (d : Data) (t now : Int) (k : Key) (hd : NodupKeys d) (h : t ≤ now) :
    live (sweep d t) now k = live d now k :=
  live_sweep k hd h

/-- **The limiter cannot tell the stores apart**: whichever store is plugged in (any kind, any
    configuration), the responses to any history with non-decreasing timestamps are those
    obtained with the abstract map — hence identical for any two stores. -/
theorem C06_limiter_store_independent (ei : Int → Int → Int) (st : AnyStore) (a : AMap) (t0 : Int)
    (rs : List Req) (hsim : SimStore t0 st a) (hmono : MonotoneFrom t0 rs) :
    runTagged AnyStore.ops ei st rs = runTagged AMap.ops ei a rs :=
  runTagged_sim anyStore_sim_amap ei rs t0 st a hsim hmono (fun _ _ => trivial)

theorem C06_any_two_stores_agree (ei : Int → Int → Int) (st₁ st₂ : AnyStore) (t0 : Int) (rs : List Req)
    (h₁ : st₁.data = []) (h₂ : st₂.data = []) (hmono : MonotoneFrom t0 rs) :
    runTagged AnyStore.ops ei st₁ rs = runTagged AnyStore.ops ei st₂ rs := by
  rw [runTagged_fresh ei rs t0 st₁ h₁ hmono, runTagged_fresh ei rs t0 st₂ h₂ hmono]

/-! #### non-vacuity: a concrete sequence that crosses a sweep, an expiry and a CAS -/

def exampleOps : List SOp :=
  [.setnx "a" 7 5 100, .setnx "b" 1 1 100, .get "a" 104, .cas "a" 7 9 50 104,
   .get "b" 104, .setnx "c" 3 0 105, .get "a" 105, .get "a" 154, .setnx "a" 1 1 154]

example : NonDecreasingFrom 100 (exampleOps.map (·.now)) := by decide

example : runOps AnyStore.ops (.prob ⟨[], 0, 1⟩) exampleOps =
    [.flag true, .flag true, .val (some 7), .flag true, .val none, .flag true, .val (some 9), .val none, .flag true] := by
  decide

end TcVerif
