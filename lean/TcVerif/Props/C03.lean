/-
  C03 — Response fields are truthful: limit, remaining, retry_after, reset_after.

  Every theorem is about ONE response produced from ANY reachable state of a fixed-limits key
  in D — `Rel E B c b t` holds in every state reached by any history (`C03_reachable`), and by
  `C03_probe_is_cell_step` a probe appended to any multi-key history on any store is answered
  by one more step on the key's cell.  "Probing from a copy of the state" is therefore
  "one more `rateLimitE Cell.ops` step from `(c', b')`".
-/
import TcVerif.Lemmas.History
namespace TcVerif

theorem C03_reachable {ei : Int → Int → Int} {E B : Int} (rs : List Req) (t0 : Int)
    (h : FixedD ei E B t0 rs) :
    Rel E B (stateAfter Cell.ops ei none rs) (bucketAfter B E none (rs.map reqTQ)) (lastTime t0 rs) :=
  (cell_run_bucket rs t0 none none h (rel_fresh E B t0)).2.2

theorem C03_probe_is_cell_step (ei : Int → Int → Int) (k : Key) (rs : List Req) (x : Req) (t0 : Int)
    (st : AnyStore) (hst : st.data = []) (hm : MonotoneFrom t0 (rs ++ [x])) (hk : x.key = k) :
    (runTagged AnyStore.ops ei st (rs ++ [x])).getLast? =
      some (x, (rateLimitE Cell.ops (stateAfter Cell.ops ei none (rs.filter (fun r => r.key = k)))
                  (ei x.count x.period) x).2.1) := by
  -- project the whole run onto `k`'s cell; both sides then end in the response to `x`
  have h := runTagged_project ei k (rs ++ [x]) AMap.empty
  rw [← runTagged_fresh ei _ t0 st hst hm, runTagged_append] at h
  simp only [List.filter_append, List.filter, runTagged, hk, decide_true] at h
  rw [runTagged_append] at h ⊢
  simp only [runTagged] at h ⊢
  rw [List.getLast?_concat]
  exact congrArg some (List.append_singleton_inj.mp h).2

section
variable {E B : Int} (c : Cell) (b : Option Bucket) (t : Int) (r : Req)
  (h : StepD E B t r) (hrel : Rel E B c b t)
include h hrel

/-- `limit = max_burst`, `0 ≤ remaining ≤ limit`, `retry_after = 0` exactly when admitted -/
theorem C03_limit_remaining_retry :
    (rateLimitE Cell.ops c E r).2.1.limit = B ∧
    0 ≤ (rateLimitE Cell.ops c E r).2.1.remaining ∧
    (rateLimitE Cell.ops c E r).2.1.remaining ≤ B ∧
    ((rateLimitE Cell.ops c E r).2.1.retryNs = 0 ↔ (rateLimitE Cell.ops c E r).2.1.allowed = true) := by
  have f := (rel_step c b t r h hrel).1
  have hE := h.dom.hE
  obtain ⟨l0, l1⟩ := hrel.lvlAfter_range h
  refine ⟨f.limit, ?_, ?_, ?_⟩
  · rw [f.remaining]; exact Int.ediv_nonneg l0 (by omega)
  · rw [f.remaining]
    have hc : B * E / E = B := Int.mul_ediv_cancel _ (by omega)
    have := Int.ediv_le_ediv (by omega : 0 < E) l1
    omega
  · constructor
    · intro h0
      cases ha : (rateLimitE Cell.ops c E r).2.1.allowed with
      | true => rfl
      | false => have := f.retry_pos ha; omega
    · exact f.retry_zero

theorem followup_allowed (x : Req) (hx : StepD E B r.now x) :
    (rateLimitE Cell.ops (rateLimitE Cell.ops c E r).1 E x).2.1.allowed
      = decide (x.qty * E ≤ min (B * E) (lvlAfter B E b r.now r.qty + (x.now - r.now))) :=
  (rel_step _ _ r.now x hx (rel_step c b t r h hrel).2).1.allowed

/-- **remaining is exact**: immediately afterwards (same instant, from the state the response
    was produced in) a request for `q` tokens is admitted iff `q ≤ remaining`; in particular
    `remaining` is admitted and `remaining + 1` is denied. -/
theorem C03_remaining_exact (q : Int) (hq : 0 ≤ q) :
    (rateLimitE Cell.ops (rateLimitE Cell.ops c E r).1 E { r with qty := q }).2.1.allowed
      = decide (q ≤ (rateLimitE Cell.ops c E r).2.1.remaining) := by
  have hE := h.dom.hE
  obtain ⟨l0, l1⟩ := hrel.lvlAfter_range h
  rw [followup_allowed c b t r h hrel { r with qty := q } ⟨h.dom, h.burst, ⟨hq, h.valid.2⟩, Int.le_refl _, h.now0, h.now1⟩,
    (rel_step c b t r h hrel).1.remaining]
  have hm : min (B * E) (lvlAfter B E b r.now r.qty + (r.now - r.now)) = lvlAfter B E b r.now r.qty := by
    rw [Int.sub_self, Int.add_zero]; exact Int.min_eq_right l1
  exact decide_eq_decide.mpr (by rw [hm]; exact (Int.le_ediv_iff_mul_le (by omega)).symm)

/-- in particular: `remaining` tokens are admitted, `remaining + 1` are denied -/
theorem C03_remaining_admitted_next_denied :
    (rateLimitE Cell.ops (rateLimitE Cell.ops c E r).1 E
        { r with qty := (rateLimitE Cell.ops c E r).2.1.remaining }).2.1.allowed = true ∧
    (rateLimitE Cell.ops (rateLimitE Cell.ops c E r).1 E
        { r with qty := (rateLimitE Cell.ops c E r).2.1.remaining + 1 }).2.1.allowed = false := by
  have hr := (C03_limit_remaining_retry c b t r h hrel).2.1
  constructor
  · rw [C03_remaining_exact c b t r h hrel _ hr]
    exact decide_eq_true (Int.le_refl _)
  · rw [C03_remaining_exact c b t r h hrel _ (by omega)]
    exact decide_eq_false (by omega)

/-- **retry_after is honoured**: a denied request of quantity ≤ max_burst, repeated `retry_after`
    later with no other traffic on the key, is admitted — and 1 ns earlier it is still denied
    (whether or not the key's entry has expired in between). -/
theorem C03_retry_honoured (hden : (rateLimitE Cell.ops c E r).2.1.allowed = false) (hqb : r.qty ≤ B)
    (hT : r.now + (rateLimitE Cell.ops c E r).2.1.retryNs ≤ T_MAX) :
    (rateLimitE Cell.ops (rateLimitE Cell.ops c E r).1 E
        { r with now := r.now + (rateLimitE Cell.ops c E r).2.1.retryNs }).2.1.allowed = true ∧
    (rateLimitE Cell.ops (rateLimitE Cell.ops c E r).1 E
        { r with now := r.now + (rateLimitE Cell.ops c E r).2.1.retryNs - 1 }).2.1.allowed = false := by
  have f := (rel_step c b t r h hrel).1
  have hE := h.dom.hE; have hn0 := h.now0
  have hpos := f.retry_pos hden
  have hex := f.retry_exact hden hqb
  have hqE : r.qty * E ≤ B * E := Int.mul_le_mul_of_nonneg_right hqb (by omega)
  have hlvl : lvlAfter B E b r.now r.qty = Bucket.refill (B * E) b r.now :=
    if_neg (of_decide_eq_false (f.allowed ▸ hden))
  have l1 := (hrel.lvlAfter_range h).2
  have hfu := followup_allowed c b t r h hrel
  rw [hlvl] at l1 hfu
  generalize (rateLimitE Cell.ops c E r).2.1.retryNs = retry at *
  generalize Bucket.refill (B * E) b r.now = lvl at *
  have later (x : Int) (h1 : r.now ≤ x) (h2 : x ≤ T_MAX) : StepD E B r.now { r with now := x } :=
    ⟨h.dom, h.burst, h.valid, h1, Int.le_trans hn0 h1, h2⟩
  rw [hfu _ (later (r.now + retry) (by omega) hT), hfu _ (later (r.now + retry - 1) (by omega) (by omega))]
  exact ⟨decide_eq_true (by simp only; omega), decide_eq_false (by simp only; omega)⟩

/-- `reset_after` is never shorter than the time to regain the full burst -/
theorem C03_reset_ge_refill :
    B * E - lvlAfter B E b r.now r.qty ≤ (rateLimitE Cell.ops c E r).2.1.resetNs := by
  have f := (rel_step c b t r h hrel).1
  rw [f.reset]
  exact Int.le_add_of_nonneg_right (Int.sub_nonneg_of_le h.dom.pad_bounds.1)

/-- `reset_after` equals the lifetime the limiter asks the store to keep the key's state:
    every write issued by the call carries `ttl = reset_after` (and there is at most one write) -/
theorem C03_reset_eq_lifetime :
    ∀ op ∈ (rateLimitE Cell.ops c E r).2.2, ∀ ttl, op.ttl? = some ttl →
      ttl = (rateLimitE Cell.ops c E r).2.1.resetNs :=
  fun _ hop _ httl => ((rel_step c b t r h hrel).1.ttl_of_mem hop httl).2

/-- once `reset_after` has elapsed the key behaves exactly as a never-seen key -/
theorem C03_reset_then_fresh (x : Req) (hx : x.valid)
    (ht : r.now + (rateLimitE Cell.ops c E r).2.1.resetNs ≤ x.now) :
    (rateLimitE Cell.ops (rateLimitE Cell.ops c E r).1 E x).2.1 = (rateLimitE Cell.ops none E x).2.1 := by
  obtain ⟨f, hrel'⟩ := rel_step c b t r h hrel
  rw [rateLimitE_cell _ E x hx, rateLimitE_cell none E x hx]
  have hget : Cell.ops.get (rateLimitE Cell.ops c E r).1 x.key x.now = none := by
    generalize (rateLimitE Cell.ops c E r).1 = c' at hrel' ⊢
    rcases c' with _ | ⟨v, e⟩
    · rfl
    · obtain ⟨⟨hexp, -, -⟩, -, -, -, hlvl⟩ := hrel'
      simp only [LvlOK] at hlvl
      rw [f.reset] at ht
      -- expired: `e = v + pad`, and `hlvl` gives `v ≤ r.now + τ - lvlAfter`, so `e ≤ r.now + reset_after`
      rw [Cell.get_some, if_neg (by omega)]
  rw [hget]
  rfl

end
end TcVerif
