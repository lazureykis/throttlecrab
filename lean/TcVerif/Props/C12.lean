/-
  C12 — Transport fidelity: HTTP, gRPC and RESP report exactly what the library decided.

  Model: `Model/Wire.lean` (response conversion, HTTP / gRPC request and response mappings) and
  the RESP command layer of `Model/Resp.lean` (`plan`, `finish`).  The mapping TABLES are
  regenerated from the Rust sources on every run (`Gen/Consts.lean`) and tied here by
  theorems stated with the documented layout (each holds by `rfl`), so a swapped field, a changed
  default or a different unit in the code breaks a proof obligation.
  JSON / protobuf / HTTP decoding themselves (serde, prost, axum, tonic) are trusted.
-/
import TcVerif.Model.Wire
import TcVerif.Lemmas.RespPlan
namespace TcVerif
open Wire

/-! ### what the code's mapping tables say (regenerated from source; struct-literal fields sorted by name,
    because their order is irrelevant in Rust - which source expression feeds which field is what matters;
    expressions in the translator's canonical spelling: the receiver a field is read from (`req.`, `result.`)
    and `.clone()` are dropped, `i64::from(x)` is written `x as i64`, a constant is replaced by its value and a
    local bound to `SystemTime::now()` by that call) -/

theorem C12_tie_types_response : Gen.TYPES_RESPONSE_MAP =
    [("allowed", "allowed"), ("limit", "limit"), ("remaining", "remaining"),
     ("reset_after", "reset_after.as_secs() as i64"), ("retry_after", "retry_after.as_secs() as i64")] := rfl

theorem C12_tie_grpc_response : Gen.GRPC_RESPONSE_MAP =
    [("allowed", "allowed"), ("limit", "limit as i32"), ("remaining", "remaining as i32"),
     ("reset_after", "reset_after as i32"), ("retry_after", "retry_after as i32")] := rfl

theorem C12_tie_grpc_request : Gen.GRPC_REQUEST_MAP =
    [("count_per_period", "count_per_period as i64"), ("key", "key"), ("max_burst", "max_burst as i64"),
     ("period", "period as i64"), ("quantity", "quantity as i64"), ("timestamp", "SystemTime::now()")] := rfl

theorem C12_tie_http_request : Gen.HTTP_REQUEST_MAP =
    [("count_per_period", "count_per_period"), ("key", "key"), ("max_burst", "max_burst"),
     ("period", "period"), ("quantity", "quantity.unwrap_or(1)"), ("timestamp", "SystemTime::now()")] := rfl

/-- documented gRPC field numbers: allowed=1, limit=2, remaining=3, retry_after=4, reset_after=5 -/
theorem C12_grpc_field_numbers :
    Gen.PROTO_RESPONSE = [("bool", "allowed", 1), ("int32", "limit", 2), ("int32", "remaining", 3),
                          ("int32", "retry_after", 4), ("int32", "reset_after", 5)] ∧
    Gen.PROTO_REQUEST = [("string", "key", 1), ("int32", "max_burst", 2), ("int32", "count_per_period", 3),
                         ("int32", "period", 4), ("int32", "quantity", 5)] :=
  ⟨rfl, rfl⟩

/-- RESP reply layout and argument positions as documented:
    `[allowed, limit, remaining, reset_after, retry_after]`, `THROTTLE key max_burst count period [quantity]` -/
theorem C12_tie_resp_layout :
    Gen.RESP_REPLY_FIELDS = ["allowed", "limit", "remaining", "reset_after", "retry_after"] ∧
    Gen.RESP_ARG_INDEX = [("key", 1), ("max_burst", 2), ("count_per_period", 3), ("period", 4), ("quantity", 5)] ∧
    Gen.RESP_DEFAULT_QUANTITY = 1 ∧ Gen.HTTP_DEFAULT_QUANTITY = 1 ∧
    Gen.RESP_THROTTLE_MIN_ARGS = 5 ∧ Gen.RESP_THROTTLE_MAX_ARGS = 6 ∧ Gen.RESP_THROTTLE_FULL_ARITY = 6 :=
  ⟨rfl, rfl, rfl, rfl, rfl, rfl, rfl⟩

/-- durations on the wire are the library's durations truncated to whole seconds -/
theorem C12_seconds_floor (a : Bool) (l r resetNs retryNs : Int) (h1 : 0 ≤ resetNs) (h2 : 0 ≤ retryNs) :
    ∃ w, toResponse (.ok a l r resetNs retryNs) = some w ∧ w.allowed = a ∧ w.limit = l ∧ w.remaining = r ∧
      w.resetS * 1000000000 ≤ resetNs ∧ resetNs < (w.resetS + 1) * 1000000000 ∧
      w.retryS * 1000000000 ≤ retryNs ∧ retryNs < (w.retryS + 1) * 1000000000 := by
  refine ⟨_, rfl, rfl, rfl, rfl, ?_⟩
  simp only [Wire.NS_PER_SEC]
  omega

/-- library errors never produce a success response on any transport -/
theorem C12_error_no_response (o : Outcome) (h : o.allowed = false ∧ ∀ a l r x y, o ≠ .ok a l r x y) :
    toResponse o = none := by
  cases o with
  | ok a l r x y => exact absurd rfl (h.2 a l r x y)
  | _ => rfl

/-- an omitted quantity means 1 on HTTP … -/
theorem C12_http_default_quantity (key : List UInt8) (b c p : Int) :
    (httpRequest key b c p none).qty = 1 ∧ ∀ q, (httpRequest key b c p (some q)).qty = q := by
  constructor
  · rfl
  · intro q; rfl

/-- … and on RESP (5-element THROTTLE), whichever argument encoding is used -/
theorem C12_resp_default_quantity (name : List UInt8) (key : List UInt8) (b c p : Int) :
    Resp.plan (.array [.bulk (some name), .bulk (some key), .int b, .int c, .int p]) (some b!"THROTTLE")
      = .send ⟨key, b, c, p, 1⟩ := by
  simp [Resp.plan_throttle, Resp.handleThrottle, Resp.argInt]

/-- RESP arguments: `:int` and bulk-decimal encodings denote the same request; any spelling of
    the command name that upper-cases to THROTTLE is accepted -/
theorem C12_resp_args (name key : List UInt8) (b c p q : Int) (sb sc sp sq : List UInt8)
    (hb : Resp.parseI64 sb = some b) (hc : Resp.parseI64 sc = some c) (hp : Resp.parseI64 sp = some p)
    (hq : Resp.parseI64 sq = some q) :
    Resp.plan (.array [.bulk (some name), .bulk (some key), .bulk (some sb), .bulk (some sc), .bulk (some sp), .bulk (some sq)])
        (some b!"THROTTLE") = .send ⟨key, b, c, p, q⟩ ∧
    Resp.plan (.array [.bulk (some name), .bulk (some key), .int b, .int c, .int p, .int q])
        (some b!"THROTTLE") = .send ⟨key, b, c, p, q⟩ := by
  constructor <;> simp [Resp.plan_throttle, Resp.handleThrottle, Resp.argInt, hb, hc, hp, hq]

/-- RESP reply layout: `[allowed?1:0, limit, remaining, reset_after, retry_after]` -/
theorem C12_resp_reply_layout (w : Wire.WResp) :
    Resp.finish (respAnswer w) =
      .array [.int (if w.allowed then 1 else 0), .int w.limit, .int w.remaining, .int w.resetS, .int w.retryS] := by
  simp [Resp.finish, respAnswer, Resp.boolInt]

/-- gRPC: every field that fits `int32` survives the `as i32` narrowing unchanged, in its own slot -/
theorem C12_grpc_roundtrip (w : Wire.WResp) (h1 : inI32 w.limit) (h2 : inI32 w.remaining)
    (h3 : inI32 w.retryS) (h4 : inI32 w.resetS) :
    grpcResponse w = ⟨w.allowed, w.limit, w.remaining, w.retryS, w.resetS⟩ := by
  have wrap : ∀ x, inI32 x → wrapI32 x = x := by
    intro x hx
    unfold inI32 at hx
    unfold wrapI32
    simp only
    split <;> omega
  rw [grpcResponse, wrap _ h1, wrap _ h2, wrap _ h3, wrap _ h4]

/-- the same logical request yields the same library request on all three transports -/
theorem C12_same_request (name key : List UInt8) (b c p q : Int) :
    httpRequest key b c p (some q) = grpcRequest key b c p q ∧
    respRequest (.array [.bulk (some name), .bulk (some key), .int b, .int c, .int p, .int q]) (some b!"THROTTLE")
      = some (grpcRequest key b c p q) := by
  refine ⟨rfl, ?_⟩
  simp [respRequest, Resp.plan_throttle, Resp.handleThrottle, Resp.argInt, grpcRequest]

/-- hence the same answer: the library's answer `w` is reported identically (HTTP verbatim, RESP in
    the documented array layout, gRPC verbatim whenever the values fit int32) -/
theorem C12_same_answer (w : Wire.WResp) :
    httpResponse w = w ∧
    Resp.finish (respAnswer w) = .array [.int (if w.allowed then 1 else 0), .int w.limit, .int w.remaining, .int w.resetS, .int w.retryS] :=
  ⟨rfl, C12_resp_reply_layout w⟩

/-- malformed RESP requests (wrong arity, non-numeric argument, non-string key) get a protocol error
    reply and NO request is sent to the limiter - so no key's budget can be consumed -/
theorem C12_malformed_no_send (args : List Resp.Value) (name : List UInt8)
    (h : args.length + 1 < 5 ∨ args.length + 1 > 6) :
    ∃ e, Resp.plan (.array (.bulk (some name) :: args)) (some b!"THROTTLE") = .reply (.error e) := by
  exact ⟨_, (Resp.plan_throttle ..).trans (if_pos h)⟩

theorem C12_nonnumeric_no_send (name key : List UInt8) (bad : List UInt8) (c p : Int)
    (hbad : Resp.parseI64 bad = none) :
    Resp.plan (.array [.bulk (some name), .bulk (some key), .bulk (some bad), .int c, .int p]) (some b!"THROTTLE")
      = .reply (.error (b!"ERR invalid max_burst")) := by
  simp [Resp.plan_throttle, Resp.handleThrottle, Resp.argInt, hbad]

example : toResponse (.ok true 10 9 5400000000 0) = some ⟨true, 10, 9, 5, 0⟩ := by decide
example : grpcResponse ⟨false, 2147483648, 3, 7, 9⟩ = ⟨false, -2147483648, 3, 9, 7⟩ := by decide

end TcVerif
