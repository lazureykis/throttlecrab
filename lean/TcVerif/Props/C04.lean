/-
  C04 — Denied, zero-quantity and invalid requests consume nothing.

  Stated on the full store models (`AnyStore`: any of the three stores in any configuration and
  scheduling state, with unique keys - what a hash map guarantees) for ARBITRARY requests:
  any keys, any limits per request (the same key may be used with different limits), valid or
  not, and - stronger than the property asks - any timestamp order.
  "Consumes nothing" is proved in the strongest form: the whole store state (entries AND cleanup
  scheduling state) is literally unchanged, hence every later response is unchanged.
-/
import TcVerif.Lemmas.LimiterSim
import TcVerif.Lemmas.Decision
namespace TcVerif
open Data

def NoEffect (r : Req) (o : Outcome) : Prop := o.isOk = false ∨ o.allowed = false ∨ r.qty = 0

/-- rejected requests (non-positive limits, negative quantity) touch the store not at all:
    no operation is issued, so no state can be created — for ANY store implementation -/
theorem C04_error_no_state {σ : Type} (S : StoreOps σ) (s : σ) (E : Int) (r : Req) (h : ¬ r.valid) :
    (rateLimitE S s E r).1 = s ∧ (rateLimitE S s E r).2.2 = [] ∧ (rateLimitE S s E r).2.1.isOk = false := by
  rw [rateLimitE_invalid S s E r h]
  exact ⟨rfl, rfl, by dsimp only; split <;> rfl⟩

/-- **C04 (state form).** A request answered with an error, a denial, or carrying quantity 0
    leaves the store exactly as it was, and issues no write. -/
theorem C04_no_effect_state (st : AnyStore) (hd : NodupKeys st.data) (E : Int) (r : Req)
    (h : NoEffect r (rateLimitE AnyStore.ops st E r).2.1) :
    (rateLimitE AnyStore.ops st E r).1 = st ∧
    ∀ op ∈ (rateLimitE AnyStore.ops st E r).2.2, op.ttl? = none := by
  by_cases hv : r.valid
  · rw [rateLimitE_anyStore st hd E r hv] at h ⊢
    have hnw : (decision E r (AnyStore.ops.get st r.key r.now)).write = false := by
      rw [← Bool.not_eq_true, decision_write_iff, ← decision_outcome_allowed]
      rintro ⟨ha, hq⟩
      rcases h with h | h | h
      · cases h
      · exact Bool.false_ne_true (h.symm.trans ha)
      · omega
    simp only [passOps, hnw, Bool.false_eq_true, if_false, List.mem_singleton]
    exact ⟨trivial, fun op hop => by rw [hop]; rfl⟩
  · obtain ⟨e1, e2, _⟩ := C04_error_no_state AnyStore.ops st E r hv
    rw [e2]
    exact ⟨e1, fun op hop => by cases hop⟩

/-- **C04 (history form).** Deleting a no-effect request from ANY history changes no other response:
    the responses before it are the same, and so are all the responses after it. -/
theorem C04_deleting_changes_nothing (ei : Int → Int → Int) (st : AnyStore) (hd : NodupKeys st.data)
    (pre post : List Req) (x : Req)
    (h : NoEffect x (rateLimitE AnyStore.ops (stateAfter AnyStore.ops ei st pre) (ei x.count x.period) x).2.1) :
    ∃ ox, runTagged AnyStore.ops ei st (pre ++ x :: post)
            = runTagged AnyStore.ops ei st pre ++ (x, ox) :: runTagged AnyStore.ops ei (stateAfter AnyStore.ops ei st pre) post
        ∧ runTagged AnyStore.ops ei st (pre ++ post)
            = runTagged AnyStore.ops ei st pre ++ runTagged AnyStore.ops ei (stateAfter AnyStore.ops ei st pre) post := by
  refine ⟨(rateLimitE AnyStore.ops (stateAfter AnyStore.ops ei st pre) (ei x.count x.period) x).2.1, ?_,
    runTagged_append _ _ _ _ _⟩
  rw [runTagged_append]
  congr 1
  simp only [runTagged]
  rw [(C04_no_effect_state _ (stateAfter_nodup ei st hd pre) _ x h).1]

/-! #### non-vacuity: two zero-quantity probes (one of them under OTHER limits), an over-burst request
    and an invalid one, inserted into a history on a `max_burst = 1` key, leave the answers to that history
    as they were.  (Quantity 0 on `max_burst = 1` is the input of finding F2 in DESIGN.md.) -/

def c04Base : List Req := [⟨"k", 1, 1, 1, 1, 5000000000⟩, ⟨"k", 1, 1, 1, 1, 5500000000⟩, ⟨"k", 1, 1, 1, 1, 6000000000⟩]
def c04Ext : List Req :=
  [⟨"k", 1, 1, 1, 0, 4000000000⟩, ⟨"k", 1, 1, 1, 1, 5000000000⟩, ⟨"k", 7, 1000, 1, 0, 5000000001⟩,
   ⟨"k", 1, 1, 1, 2, 5000000002⟩, ⟨"k", 0, 1, 1, 1, 5000000003⟩, ⟨"k", 1, 1, 1, 1, 5500000000⟩, ⟨"k", 1, 1, 1, 1, 6000000000⟩]

example :
    (runTagged AnyStore.ops (fun c p => p * 1000000000 / c) (.prob ⟨[], 0, 1⟩) c04Ext).filter (fun p => p.1.qty = 1 ∧ p.1.burst = 1)
      = runTagged AnyStore.ops (fun c p => p * 1000000000 / c) (.prob ⟨[], 0, 1⟩) c04Base := by decide

end TcVerif
