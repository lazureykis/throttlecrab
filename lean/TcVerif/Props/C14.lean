/-
  C14 — RESP encode/decode are inverse and every reply is exactly one frame.
-/
import TcVerif.Lemmas.RespConn

namespace TcVerif.Resp

open TcVerif.Gen

/-- every well-formed value (valid UTF-8 payloads, no CR LF inside simple strings / errors, sizes
    within the limits, integers in `i64`, nesting ≤ 128) decodes back to itself, consuming exactly
    its encoding, whatever follows it on the wire -/
theorem C14_roundtrip {v : Value} (h : WF v) (x : List UInt8) :
    parse (encode v ++ x) = .ok v (encode v).length := by
  rw [WF_iff] at h
  exact roundtrip v RESP_MAX_DEPTH h.1 h.2 x

/-- the same at any parser depth: a value of nesting depth `k` needs `128 - depth ≥ k` -/
theorem C14_roundtrip_at_depth {v : Value} {fuel : Nat} (h : sizesOk v = true)
    (hd : depth v ≤ fuel) (x : List UInt8) :
    decode fuel (encode v ++ x) = .ok v (encode v).length :=
  roundtrip v fuel h hd x

/-- whatever the decoder returns is well-formed (so it can be echoed, e.g. by PING) -/
theorem C14_parsed_wellformed {d : List UInt8} {v : Value} {n : Nat} (h : parse d = .ok v n) :
    WF v :=
  parse_wf h

/-- every reply is exactly one frame: for every well-formed command value, every valid-UTF-8
    upper-casing result and every limiter answer (`i64` fields, error text valid UTF-8 without
    CR LF) the reply `r` is well-formed, hence `parse (encode r ++ x) = ok r |encode r|` -/
theorem C14_reply_single_frame {v : Value} {upper : Option (List UInt8)} {a : ActorAnswer}
    (hv : WF v) (hu : ∀ u, upper = some u → validUtf8 u = true) (ha : AnswerOK a) :
    WF (replyOf v upper a) ∧
    ∀ x, parse (encode (replyOf v upper a) ++ x)
      = .ok (replyOf v upper a) (encode (replyOf v upper a)).length :=
  ⟨replyOf_wf hv hu ha, fun x => C14_roundtrip (replyOf_wf hv hu ha) x⟩

/-- in particular for every command produced by the decoder -/
theorem C14_reply_single_frame_parsed {d : List UInt8} {v : Value} {n : Nat}
    {upper : Option (List UInt8)} {a : ActorAnswer} (hp : parse d = .ok v n)
    (hu : ∀ u, upper = some u → validUtf8 u = true) (ha : AnswerOK a) (x : List UInt8) :
    parse (encode (replyOf v upper a) ++ x)
      = .ok (replyOf v upper a) (encode (replyOf v upper a)).length :=
  (C14_reply_single_frame (C14_parsed_wellformed hp) hu ha).2 x

/-- the same for the connection model's `respond` (= `process_command`) -/
theorem C14_respond_single_frame {actor : ThrottleReq → ActorAnswer}
    {upperOf : List UInt8 → List UInt8} {v : Value} (hv : WF v)
    (hup : ∀ s, validUtf8 s = true → validUtf8 (upperOf s) = true)
    (hact : ∀ req, AnswerOK (actor req)) (x : List UInt8) :
    parse (encode (respond actor upperOf v) ++ x)
      = .ok (respond actor upperOf v) (encode (respond actor upperOf v)).length :=
  C14_roundtrip (respond_wf hv hup hact) x

example : WF (.array [.int (-5), .bulk (some b!"h\r\nllo"), .bulk none, .array [], .simple b!"OK"]) := by
  decide

example : parse (encode (.array [.int (-5), .bulk (some b!"h\r\nllo"), .bulk none, .array [],
      .simple b!"OK"]) ++ b!"+next")
    = .ok (.array [.int (-5), .bulk (some b!"h\r\nllo"), .bulk none, .array [], .simple b!"OK"]) 35 := by
  rfl

/-- repaired behaviour on the counter-example command `*1 $10 "foo\r\n+OK\r\n"`:
    one frame, CR/LF replaced by spaces -/
example : replyOf (.array [.bulk (some b!"foo\r\n+OK\r\n")]) (some b!"FOO\r\n+OK\r\n") (.err [])
    = .error b!"ERR unknown command 'FOO  +OK  '" := by rfl

/-- pinned (unrepaired) behaviour echoed the name raw: that error value is not `WF` and its
    encoding decodes to a DIFFERENT, shorter frame (the client then sees `+OK` and `'` as two
    more replies) -/
example : ¬ WF (.error b!"ERR unknown command 'FOO\r\n+OK\r\n'") := by decide

example : parse (encode (.error b!"ERR unknown command 'FOO\r\n+OK\r\n'"))
    = .ok (.error b!"ERR unknown command 'FOO") 27 := by rfl

end TcVerif.Resp
