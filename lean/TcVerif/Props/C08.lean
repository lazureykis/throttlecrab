/-
  C08 — `rate_limit` is total: no input panics it, errors are the documented ones.

  Model: `TcVerif/Model/Gcra.lean` (`rateLimitE`, `decision`), bit-precise saturating i64
  arithmetic (`TcVerif/Model/Basic.lean`), the built-in stores of `TcVerif/Model/Store.lean`.
  The emission interval `E` (the u64 nanoseconds that `Rate::period().as_nanos()` holds) is
  universally quantified over `0 ≤ E < 2^64`, so nothing here depends on the floating-point
  computation of the interval.  Every theorem quantifies over ALL i64 `max_burst`,
  `count_per_period`, `period`, `quantity`, all keys, all timestamps 1970 ≤ now ≤ 2200 and
  all i64 stored values.
-/
import TcVerif.Lemmas.TotalArith
import TcVerif.Lemmas.LimiterSim
namespace TcVerif
open Data

/-- the input domain of C08: `E` a u64, `tv` what the store returned for the key -/
structure C08Input (E : Int) (r : Req) (tv : Option Int) : Prop where
  hE : 0 ≤ E ∧ E < 18446744073709551616
  hnow : 0 ≤ r.now ∧ r.now ≤ T2200
  hburst : inI64 r.burst
  hcount : inI64 r.count
  hperiod : inI64 r.period
  hqty : inI64 r.qty
  hstored : ∀ v, tv = some v → inI64 v

theorem C08Input.reqT {E : Int} {r : Req} {tv : Option Int} (h : C08Input E r tv)
    (hq : 0 ≤ r.qty) (hb : 0 < r.burst) : ReqT E r tv :=
  ⟨h.hE.1, h.hnow.1, h.hnow.2, hb, hq, h.hstored⟩

/-- A negative quantity gives the negative-quantity error (checked FIRST, whatever the limits
    are); otherwise a non-positive `max_burst`, `count_per_period` or `period` gives the
    invalid-parameters error.  In both cases the store is left untouched and not even read.
    For every store implementation `S`, every state, every `E`, every request. -/
theorem C08_errors {σ : Type} (S : StoreOps σ) (s : σ) (E : Int) (r : Req) :
    (r.qty < 0 →
      (rateLimitE S s E r).2.1 = .errNegativeQuantity ∧ (rateLimitE S s E r).1 = s ∧
      (rateLimitE S s E r).2.2 = []) ∧
    (0 ≤ r.qty → (r.burst ≤ 0 ∨ r.count ≤ 0 ∨ r.period ≤ 0) →
      (rateLimitE S s E r).2.1 = .errInvalidRateLimit ∧ (rateLimitE S s E r).1 = s ∧
      (rateLimitE S s E r).2.2 = []) := by
  constructor
  · intro hq
    rw [rateLimitE_invalid S s E r (fun hv => by have := hv.1; omega), if_pos hq]
    exact ⟨rfl, rfl, rfl⟩
  · intro hq hl
    rw [rateLimitE_invalid S s E r (fun hv => by obtain ⟨_, _, _, _⟩ := hv; omega), if_neg (by omega)]
    exact ⟨rfl, rfl, rfl⟩

/-- the parameter errors are returned ONLY in those cases: with valid parameters the call
    goes to the store loop -/
theorem C08_valid_enters_loop {σ : Type} (S : StoreOps σ) (s : σ) (E : Int) (r : Req) (hv : r.valid) :
    rateLimitE S s E r = rlLoop S MAX_RETRIES s E r [] :=
  rateLimitE_valid S s E r hv

example : (rateLimitE AMap.ops AMap.empty 18446744073709551615 ⟨"k", I64_MIN, I64_MIN, I64_MIN, I64_MIN, T2200⟩).2.1
    = .errNegativeQuantity := by decide
example : (rateLimitE AMap.ops AMap.empty 18446744073709551615 ⟨"k", I64_MAX, 0, I64_MAX, I64_MAX, T2200⟩).2.1
    = .errInvalidRateLimit := by decide
example : (rateLimitE AMap.ops AMap.empty 0 ⟨"k", 0, 1, 1, 0, 0⟩).2.1 = .errInvalidRateLimit := by decide

/-- With valid parameters the decision is a result (never an error) with `limit = max_burst`,
    `0 ≤ remaining ≤ limit`, `reset_after` and `retry_after` non-negative i64 values,
    `retry_after = 0` exactly when admitted; the TTL handed to the store is a non-negative
    i64 and the new TAT an i64.  (`count_per_period`, `period` only enter through `E`.) -/
theorem C08_decision_fields {E : Int} {r : Req} {tv : Option Int} (h : C08Input E r tv)
    (hq : 0 ≤ r.qty) (hb : 0 < r.burst) :
    ∃ a lim rem reset retry,
      (decision E r tv).outcome = .ok a lim rem reset retry ∧
      lim = r.burst ∧
      (0 ≤ rem ∧ rem ≤ r.burst) ∧
      (0 ≤ reset ∧ reset ≤ I64_MAX) ∧
      (0 ≤ retry ∧ retry ≤ I64_MAX) ∧
      (retry = 0 ↔ a = true) ∧
      a = (decision E r tv).allowed ∧
      (0 ≤ (decision E r tv).ttl ∧ (decision E r tv).ttl ≤ I64_MAX) ∧
      inI64 (decision E r tv).newTat := by
  have hT := h.reqT hq hb
  exact ⟨dAllowed E r tv, r.burst, dRemaining E r tv, dReset E r tv, dRetry E r tv, rfl, rfl,
    hT.remaining_range, dReset_range E r tv, dRetry_range E r tv, dRetry_eq_zero_iff, rfl,
    dTtl_range E r tv, clamp_range _⟩

/-- the same through the accessor functions -/
theorem C08_outcome_accessors {E : Int} {r : Req} {tv : Option Int} (h : C08Input E r tv)
    (hq : 0 ≤ r.qty) (hb : 0 < r.burst) :
    let o := (decision E r tv).outcome
    o.isOk = true ∧ o.limit = r.burst ∧ 0 ≤ o.remaining ∧ o.remaining ≤ o.limit ∧
    0 ≤ o.resetNs ∧ 0 ≤ o.retryNs ∧ (o.retryNs = 0 ↔ o.allowed = true) := by
  obtain ⟨a1, a2, a3, a4, a5, _, a7, _, a9⟩ := decision_wellFormed (h.reqT hq hb)
  exact ⟨a1, a2, a3, a4, a5, a7, a9⟩

/-- extreme inputs: everything saturates -/
def C08.rExt : Req := ⟨"k", I64_MAX, 1, I64_MAX, 1, T2200⟩

example : C08Input 18446744073709551615 C08.rExt (some I64_MIN) :=
  ⟨by decide, by decide, by decide, by decide, by decide, by decide,
   fun v hv => by cases hv; decide⟩
example : (decision 18446744073709551615 C08.rExt none).outcome = .ok true I64_MAX 0 I64_MAX 0 := by decide
example : (decision 18446744073709551615 C08.rExt (some I64_MAX)).outcome = .ok true I64_MAX 0 I64_MAX 0 := by decide
example : (decision 0 { C08.rExt with qty := I64_MAX } (some I64_MAX)).outcome
    = .ok false I64_MAX 0 1965253636854775807 1965253636854775807 := by decide
example : (decision 3 { C08.rExt with qty := I64_MAX, now := 0 } none).outcome = .ok true I64_MAX 1 I64_MAX 0 := by decide

/-- On a fresh key a request of `0 ≤ quantity ≤ max_burst` is admitted — for EVERY emission
    interval, including those for which `E·quantity` and / or `E·(max_burst-1)` saturate. -/
theorem C08_fresh_admits {E : Int} {r : Req} {tv : Option Int} (h : C08Input E r tv)
    (htv : tv = none) (hq : 0 ≤ r.qty) (hqb : r.qty ≤ r.burst) (hb : 0 < r.burst) :
    (decision E r none).allowed = true := by
  subst htv
  exact (h.reqT hq hb).fresh_allowed hqb

example : C08Input 18446744073709551615 { C08.rExt with qty := I64_MAX, now := 0 } none :=
  ⟨by decide, by decide, by decide, by decide, by decide, by decide, fun v hv => by cases hv⟩
example : (decision 18446744073709551615 { C08.rExt with qty := I64_MAX, now := 0 } none).allowed = true := by decide
example : (decision 4611686018427387904 { C08.rExt with burst := 3, qty := 3, now := 1 } none).allowed = true := by decide

/-- `passOps` on what `get` returns, with `StoreOp.write` spelled out -/
def passTrace (st : AnyStore) (E : Int) (r : Req) : List StoreOp :=
  let tv := AnyStore.ops.get st r.key r.now
  let d := decision E r tv
  StoreOp.get r.key r.now tv ::
    (if d.write then
      match tv with
      | some old => [StoreOp.cas r.key old d.newTat d.ttl r.now true]
      | none => [StoreOp.setnx r.key d.newTat d.ttl r.now true]
     else [])

/-- On every built-in store (abstract map, periodic, adaptive, probabilistic; any configuration
    and cleanup-scheduling state) whose table has unique keys, the write that follows the
    `get` of the same call succeeds at the first attempt: the result is the decision taken on
    what `get` returned, the loop issues the read and at most one (successful) write, and the
    internal "max retries" error is never produced. -/
theorem C08_no_internal (st : AnyStore) (hd : NodupKeys st.data) (E : Int) (r : Req) (hv : r.valid) :
    (rateLimitE AnyStore.ops st E r).2.1 = (decision E r (AnyStore.ops.get st r.key r.now)).outcome ∧
    (rateLimitE AnyStore.ops st E r).2.1.isOk = true ∧
    (rateLimitE AnyStore.ops st E r).2.1 ≠ .errInternal ∧
    (rateLimitE AnyStore.ops st E r).2.2 = passTrace st E r := by
  rw [rateLimitE_anyStore st hd E r hv]
  refine ⟨rfl, rfl, nofun, ?_⟩
  unfold passTrace passOps
  cases AnyStore.ops.get st r.key r.now <;> rfl

/-- unique keys (what a `HashMap` guarantees; true of every freshly built store) are
    preserved by every store operation and by every `rate_limit` call, so `C08_no_internal`
    applies along whole histories -/
theorem C08_nodup_preserved (st : AnyStore) (hd : NodupKeys st.data) :
    (∀ op : SOp, NodupKeys (applyOp AnyStore.ops st op).1.data) ∧
    (∀ (E : Int) (r : Req), NodupKeys (rateLimitE AnyStore.ops st E r).1.data) :=
  ⟨applyOp_nodup st hd, rateLimitE_nodup st hd⟩

/-- along any history of `rate_limit` calls (any timestamps, any parameters) starting from a
    table with unique keys, no call returns the internal error -/
theorem C08_no_internal_history (ei : Int → Int → Int) (rs : List Req) (st : AnyStore) (hd : NodupKeys st.data) :
    ∀ o ∈ runE AnyStore.ops ei st rs, o ≠ .errInternal := by
  induction rs generalizing st with
  | nil => intro o ho; simp [runE] at ho
  | cons r rs ih =>
    intro o ho
    simp only [runE, List.mem_cons] at ho
    rcases ho with ho | ho
    · subst ho
      by_cases hv : r.valid
      · exact (C08_no_internal st hd _ r hv).2.2.1
      · rw [rateLimitE_invalid _ st _ r hv]
        dsimp only
        split <;> exact fun hc => nomatch hc
    · exact ih _ (rateLimitE_nodup st hd _ r) o ho

example : NodupKeys (AnyStore.prob ⟨[], 0, 1⟩).data := trivial
example : (rateLimitE AnyStore.ops (.prob ⟨[⟨"k", I64_MAX, T2200 + 1⟩], 0, 1⟩) 18446744073709551615 C08.rExt).2 =
    (.ok true I64_MAX 0 I64_MAX 0,
     [.get "k" T2200 (some I64_MAX), .cas "k" I64_MAX I64_MAX I64_MAX T2200 true]) := by decide

/-- a quotient by a positive divisor is no larger in absolute value, and `MIN / -1` is excluded -/
theorem tdiv_inI64 {a b : Int} (ha : inI64 a) (hb : 0 < b) : inI64 (Int.tdiv a b) := by
  have := Int.natAbs_tdiv_le_natAbs a b
  have := Int.tdiv_le_tdiv hb ha.2
  have := Int.tdiv_le_self (a := I64_MAX) b (by decide)
  unfold inI64 I64_MIN I64_MAX at *
  omega

/-- Every arithmetic operation of `rate_limit` that is not saturating, in source order, with
    the side-condition under which it cannot panic (overflow checks on):
    `max_burst - 1`; the `as i64` of the interval and of `now`; every `saturating_*` result is
    an i64; the division is evaluated only for a positive divisor (no division by zero, no
    `MIN / -1`) and its quotient is an i64; the three `as u64` casts have non-negative
    arguments; `now + ttl` (the `SystemTime + Duration` of the stores) stays below
    `T2200 + i64::MAX` ≈ year 2492. -/
theorem C08_panic_sites {E : Int} {r : Req} {tv : Option Int} (h : C08Input E r tv)
    (hq : 0 ≤ r.qty) (hb : 0 < r.burst) :
    -- `max_burst - 1`
    inI64 (r.burst - 1) ∧
    -- `as_nanos().min(i64::MAX) as i64`, `duration.as_nanos() as i64`
    (0 ≤ eNs E ∧ inI64 (eNs E)) ∧ inI64 r.now ∧
    -- the saturating operations
    inI64 (tauNs E r.burst) ∧ inI64 (dMinTat E r) ∧ inI64 (dTat E r tv) ∧ inI64 (dInc E r) ∧
    inI64 (dNew E r tv) ∧ inI64 (dAllowAt E r tv) ∧ inI64 (dPad E r) ∧
    inI64 (satSub (dNew E r tv) r.now) ∧ inI64 (satAdd r.now (tauNs E r.burst)) ∧
    inI64 (dRoom E r tv) ∧ inI64 (satSub (dCur E r tv) r.now) ∧ inI64 (satSub (dAllowAt E r tv) r.now) ∧
    -- `room_until_limit / emission_interval_ns`
    (dRemaining E r tv = if eNs E > 0 then max (Int.tdiv (dRoom E r tv) (eNs E)) 0 else 0) ∧
    (eNs E > 0 → eNs E ≠ 0 ∧ eNs E ≠ -1 ∧ inI64 (Int.tdiv (dRoom E r tv) (eNs E))) ∧
    -- `… .max(0) as u64` (ttl, reset_after, retry_after) and `now + ttl`
    (0 ≤ (decision E r tv).ttl ∧ (decision E r tv).ttl ≤ U64_MAX) ∧
    r.now + (decision E r tv).ttl ≤ T2200 + I64_MAX ∧
    (0 ≤ dReset E r tv ∧ dReset E r tv ≤ U64_MAX) ∧
    (0 ≤ dRetry E r tv ∧ dRetry E r tv ≤ U64_MAX) := by
  have hT := h.reqT hq hb
  have he := eNs_range hT.hE
  have httl : 0 ≤ (decision E r tv).ttl ∧ (decision E r tv).ttl ≤ I64_MAX := dTtl_range E r tv
  have hreset := dReset_range E r tv
  have hretry := dRetry_range E r tv
  have hu : I64_MAX ≤ U64_MAX := by decide
  -- line for line as in the statement; a saturating result is a clamp, hence an i64
  exact ⟨range_mono (range_sub ⟨hb, h.hburst.2⟩ ⟨Int.le_refl 1, Int.le_refl 1⟩),
    ⟨he.1, range_mono he⟩, range_mono h.hnow,
    clamp_range _, clamp_range _,
    ⟨Int.le_trans (Int.le_trans (by decide) hT.minTat_range.1) hT.tat_facts.1, hT.tat_facts.2.1⟩, clamp_range _,
    clamp_range _, clamp_range _, range_mono hT.pad_facts,
    clamp_range _, clamp_range _,
    clamp_range _, clamp_range _, clamp_range _,
    rfl,
    fun hpos => ⟨by omega, by omega, tdiv_inI64 (clamp_range _) hpos⟩,
    ⟨httl.1, Int.le_trans httl.2 hu⟩,
    Int.add_le_add hT.now1 httl.2,
    ⟨hreset.1, Int.le_trans hreset.2 hu⟩,
    ⟨hretry.1, Int.le_trans hretry.2 hu⟩⟩

example : C08Input 18446744073709551615 C08.rExt (some I64_MAX) :=
  ⟨by decide, by decide, by decide, by decide, by decide, by decide,
   fun v hv => by cases hv; decide⟩
example : (decision 18446744073709551615 C08.rExt (some I64_MAX)).ttl = I64_MAX := by decide
example : dRoom 3 { C08.rExt with qty := I64_MAX, now := 0 } none = 3 := by decide

/-- **C08 for the built-in stores.**  Every call returns one of: the negative-quantity error
    (exactly when `quantity < 0`), the invalid-parameters error (exactly when `quantity ≥ 0`
    and a limit is non-positive), or a well-formed result; never the internal error. -/
theorem C08_rate_limit_total (st : AnyStore) (hd : NodupKeys st.data) {E : Int} {r : Req}
    (h : C08Input E r (AnyStore.ops.get st r.key r.now)) :
    let o := (rateLimitE AnyStore.ops st E r).2.1
    (r.qty < 0 → o = .errNegativeQuantity) ∧
    (0 ≤ r.qty → (r.burst ≤ 0 ∨ r.count ≤ 0 ∨ r.period ≤ 0) → o = .errInvalidRateLimit) ∧
    (r.valid →
      o.isOk = true ∧ o.limit = r.burst ∧ 0 ≤ o.remaining ∧ o.remaining ≤ o.limit ∧
      0 ≤ o.resetNs ∧ 0 ≤ o.retryNs ∧ (o.retryNs = 0 ↔ o.allowed = true) ∧
      (AnyStore.ops.get st r.key r.now = none → r.qty ≤ r.burst → o.allowed = true)) := by
  intro o
  refine ⟨fun hq => ((C08_errors _ st E r).1 hq).1, fun hq hl => ((C08_errors _ st E r).2 hq hl).1, ?_⟩
  intro hv
  have ho : o = (decision E r (AnyStore.ops.get st r.key r.now)).outcome := (C08_no_internal st hd E r hv).1
  obtain ⟨a1, a2, a3, a4, a5, a6, a7⟩ := C08_outcome_accessors h hv.1 hv.2.1
  rw [ho]
  refine ⟨a1, a2, a3, a4, a5, a6, a7, fun hfresh hqb => ?_⟩
  rw [hfresh, decision_outcome_allowed]
  exact C08_fresh_admits h hfresh hv.1 hqb hv.2.1

/-- **C08 for an arbitrary `Store` implementation** (one that returns i64 values, as the trait
    forces): whatever `get` answers and however often the conditional writes fail, a call with
    valid parameters ends — after at most `MAX_RETRIES` passes, by structural recursion on the
    retry budget — with a well-formed result or with the documented internal
    "max retries exceeded" error; nothing else. -/
theorem C08_any_store {σ : Type} (S : StoreOps σ) (s : σ) {E : Int} {r : Req}
    (h : ∀ s', C08Input E r (S.get s' r.key r.now)) (hv : r.valid) :
    (rateLimitE S s E r).2.1 = .errInternal ∨ Outcome.wellFormed r (rateLimitE S s E r).2.1 := by
  rw [C08_valid_enters_loop S s E r hv]
  exact rlLoop_outcome S E r (fun s' => (h s').reqT hv.1 hv.2.1) _ s []

example : (rateLimitE refusingStore () 18446744073709551615 C08.rExt).2.1 = .errInternal := by decide
example : (rateLimitE refusingStore () 18446744073709551615 C08.rExt).2.2.length = 20 := by decide
example : Outcome.wellFormed C08.rExt (rateLimitE AMap.ops AMap.empty 18446744073709551615 C08.rExt).2.1 := by
  decide

end TcVerif
