/-
  C17 — Clock regression is tolerated: bounded cost, never a crash.

  What holds for ARBITRARY timestamp order (proved):
   * `C17_no_error`: every valid request is answered with a result - no panic outcome exists in
     the total model and no internal error arises on any built-in store, whatever the order;
   * `C17_regressed_sees_no_more`: from any state, a request stamped `t ≤ T` is offered no more
     budget than the same request stamped `T` (so an out-of-order request never gains from
     carrying an older timestamp than the latest one seen);
   * `C17_window_bound_partial`: on a store that never physically removes entries (the
     abstract map - e.g. `ProbabilisticStore` with cleanup probability 0) the C01 window bound
     holds for any timestamp order, even without the `+J` allowance.
  What does NOT hold (proved false, the witness is replayed on the implementation and
  listed as a known finding): the full window bound `max_burst + (t2-t1+J)/E` on stores that
  sweep - a sweep triggered at the latest time removes an entry that a regressed request
  would still have seen, which then counts as a never-seen key (`C17_window_bound_J_false`).
-/
import TcVerif.Lemmas.NonMono
namespace TcVerif
open Data

/-- **never an error, whatever the timestamp order** -/
theorem C17_no_error (ei : Int → Int → Int) (rs : List Req) (st : AnyStore) (hd : NodupKeys st.data) :
    ∀ p ∈ runTagged AnyStore.ops ei st rs, p.1.valid → p.2.isOk = true := by
  induction rs generalizing st with
  | nil => intro p hp; simp [runTagged] at hp
  | cons r rs ih =>
    intro p hp hv
    simp only [runTagged, List.mem_cons] at hp
    rcases hp with hp | hp
    · subst hp
      rw [rateLimitE_anyStore st hd _ r hv]
      rfl
    · exact ih _ (rateLimitE_nodup st hd _ r) p hp hv

/-- **a regressed request sees no more budget**: from any state of a fixed-limits key, if the
    request stamped `t` is admitted then the same request stamped `T ≥ t` is admitted too, and a
    zero-quantity probe reports no more remaining tokens at `t` than at `T`. -/
theorem C17_regressed_sees_no_more {E B : Int} (c : Cell) (hinv : CellInv E B c) (r : Req) (t T : Int)
    (hT : ReqOK E B { r with now := T }) (ht : ReqOK E B { r with now := t }) (h : t ≤ T) :
    ((rateLimitE Cell.ops c E { r with now := t }).2.1.allowed = true →
      (rateLimitE Cell.ops c E { r with now := T }).2.1.allowed = true) ∧
    (r.qty = 0 → (rateLimitE Cell.ops c E { r with now := t }).2.1.remaining
                  ≤ (rateLimitE Cell.ops c E { r with now := T }).2.1.remaining) := by
  have hm := headroom_mono E B c t T h
  obtain ⟨_, -, -, gt⟩ := cell_step c _ ht hinv rfl
  obtain ⟨_, -, -, gT⟩ := cell_step c _ hT hinv rfl
  rw [gt, gT]
  unfold cellAnswer Outcome.allowed Outcome.remaining
  dsimp only
  constructor
  · intro hb
    exact decide_eq_true (Int.le_trans (of_decide_eq_true hb) hm)
  · intro hq
    have hE := hT.dom.hE
    simp only [hq, Int.zero_mul, Int.sub_zero, ite_self]
    have := Int.tdiv_le_tdiv (by omega : 0 < E) hm
    exact Int.max_le.mpr ⟨Int.le_trans this (Int.le_max_left _ _), Int.le_max_right _ _⟩

def AllOKk (ei : Int → Int → Int) (E B : Int) (k : Key) (rs : List Req) : Prop :=
  AllOK ei E B (rs.filter (fun r => r.key = k))

/-- **window bound, any timestamp order, on a store that never physically removes entries** -/
theorem C17_window_bound_partial (ei : Int → Int → Int) (k : Key) (rs : List Req) (E B : Int)
    (hok : AllOKk ei E B k rs) (hD : DomD E B) (t1 t2 : Int) (h12 : t1 ≤ t2) :
    admittedTokensK k t1 t2 (runTagged AMap.ops ei AMap.empty rs) ≤ B + (t2 - t1) / E := by
  apply tokens_le_of_credit_le hD.hE
  rw [admittedCreditK_filter, runTagged_project ei k rs AMap.empty]
  exact window_fresh _ t1 t2 hok hD h12

/-- largest backward step of the clock along processing order (`latest` = latest timestamp so far) -/
def regressionJ : Int → List Req → Int
  | _, [] => 0
  | latest, r :: rs => max (latest - r.now) (regressionJ (max latest r.now) rs)

def historyJ : List Req → Int
  | [] => 0
  | r :: rs => regressionJ r.now rs

/-- the property's window clause, at full strength, for every built-in store -/
def C17_window_bound_J : Prop :=
  ∀ (ei : Int → Int → Int) (st : AnyStore) (k : Key) (rs : List Req) (E B : Int) (t1 t2 : Int),
    st.data = [] → AllOKk ei E B k rs → DomD E B → t1 ≤ t2 →
    admittedTokensK k t1 t2 (runTagged AnyStore.ops ei st rs) ≤ B + (t2 - t1 + historyJ rs) / E

/-- witness: burst 1, one token per second; key `k` at 10 s, then a fresh other key at 12 s (its write
    sweeps `k`'s entry, which expired at 11 s), back to `k` at 10 s (now a never-seen key), … :
    4 tokens admitted with timestamp 10 s, `J = 2 s`, bound `1 + (0 + 2)/1 = 3`. -/
def c17Witness : List Req :=
  [⟨"k", 1, 1, 1, 1, 10000000000⟩, ⟨"o1", 1, 1, 1, 1, 12000000000⟩,
   ⟨"k", 1, 1, 1, 1, 10000000000⟩, ⟨"o2", 1, 1, 1, 1, 12000000000⟩,
   ⟨"k", 1, 1, 1, 1, 10000000000⟩, ⟨"o3", 1, 1, 1, 1, 12000000000⟩,
   ⟨"k", 1, 1, 1, 1, 10000000000⟩]

theorem c17Witness_admits_four :
    admittedTokensK "k" 10000000000 10000000000
      (runTagged AnyStore.ops (fun c p => p * 1000000000 / c) (.prob ⟨[], 0, 1⟩) c17Witness) = 4 := by decide

theorem c17Witness_J : historyJ c17Witness = 2000000000 := by decide

theorem C17_window_bound_J_false : ¬ C17_window_bound_J := by
  intro h
  have hok : AllOKk (fun c p => p * 1000000000 / c) 1000000000 1 "k" c17Witness := by
    simp only [AllOKk, c17Witness, List.filter]
    have one : ∀ t, 0 ≤ t → t ≤ T_MAX → ReqOK 1000000000 1 ⟨"k", 1, 1, 1, 1, t⟩ := fun t h0 h1 =>
      ⟨⟨by decide, by decide, by decide⟩, rfl, ⟨Int.le_of_lt Int.one_pos, Int.one_pos, Int.one_pos, Int.one_pos⟩, h0, h1⟩
    exact ⟨one _ (by decide) (by decide), rfl, one _ (by decide) (by decide), rfl,
           one _ (by decide) (by decide), rfl, one _ (by decide) (by decide), rfl, trivial⟩
  have := h (fun c p => p * 1000000000 / c) (.prob ⟨[], 0, 1⟩) "k" c17Witness 1000000000 1
    10000000000 10000000000 rfl hok ⟨by decide, by decide, by decide⟩ (by decide)
  rw [c17Witness_admits_four, c17Witness_J] at this
  revert this
  decide

/-- on the never-sweeping store the same history stays within the bound (1 token) -/
example : admittedTokensK "k" 10000000000 10000000000
    (runTagged AMap.ops (fun c p => p * 1000000000 / c) AMap.empty c17Witness) = 1 := by decide

end TcVerif
