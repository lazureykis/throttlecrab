/-
  C09 — One shared limiter: concurrent clients on any protocol are linearizable.

  Model: the actor LTS of `Model/Actor.lean` (every transport reaches the limiter only through a
  clone of ONE `RateLimiterHandle`, i.e. through `call`; independent connections are independent
  clients).  Every theorem is about every reachable state: any number `n` of clients, any
  programs `M.prog`, any capacity `M.cap`, any limiter (`M.lim`, in particular the GCRA model over any
  store), any initial limiter state `l0`, runs of any length, every interleaving of client steps
  and actor steps.

  The witness linearization is the `proc` log: the list of `(request id, request, response)` in
  the order the actor processed them.
-/
import TcVerif.Lemmas.ActorOrder
import TcVerif.Lemmas.ActorToy
import TcVerif.Lemmas.ActorGcra
namespace TcVerif.Actor
variable {L Rq Rs : Type}
variable {M : Sys L Rq Rs} {n : Nat} {l0 : L} {s : State L Rq Rs}

/-- **C09 (sequential).**  The current limiter state and all responses computed so far are exactly
    those of running the limiter sequentially over the requests of the `proc` log, in log order. -/
theorem C09_sequential (h : Reach M n l0 s) :
    seqRun M.lim l0 ((procLog s.log).map (·.2.1)) = some (s.lim, (procLog s.log).map (·.2.2)) :=
  inv_sequential h

/-- **C09 (delivery).**  Every `ret` delivers exactly the response computed at that request's
    (unique, earlier) `proc`, and the processed request is the one in the client's program. -/
theorem C09_delivery (h : Reach M n l0 s) {k : Nat} {id : Id} {rs : Rs}
    (hk : s.log[k]? = some (.ret id rs)) :
    ∃ j, j < k ∧ ∃ r, s.log[j]? = some (.proc id r rs) ∧ (M.prog id.1)[id.2]? = some r ∧
      ∀ j' r' rs', s.log[j']? = some (.proc id r' rs') → j' = j ∧ r' = r ∧ rs' = rs := by
  obtain ⟨j, hjk, r, hj⟩ := ret_after_proc h hk
  refine ⟨j, hjk, r, hj, proc_req h (List.mem_of_getElem? hj), ?_⟩
  intro j' r' rs' hj'
  cases proc_unique h hj' hj
  cases hj.symm.trans hj'
  exact ⟨rfl, rfl, rfl⟩

/-- **C09 (order).**  The `proc` order respects (a) each client's program order and (b) real-time
    precedence: if `r₁` returned / was cancelled / failed before `r₂` was called and both are
    processed, `r₁` is processed first; (c) a request is processed after its `call` and `enq`,
    and (d) before its `ret`. -/
theorem C09_order (h : Reach M n l0 s) :
    (∀ {c i1 i2 p q : Nat} {r1 r2 : Rq} {o1 o2 : Rs},
      s.log[p]? = some (.proc (c, i1) r1 o1) → s.log[q]? = some (.proc (c, i2) r2 o2) → i1 < i2 → p < q) ∧
    (∀ {i j p q : Nat} {e1 : Event Rq Rs} {id1 id2 : Id} {r1 r2 r2' : Rq} {o1 o2 : Rs},
      s.log[i]? = some e1 → e1.finishes id1 → s.log[j]? = some (.call id2 r2) → i < j →
      s.log[p]? = some (.proc id1 r1 o1) → s.log[q]? = some (.proc id2 r2' o2) → p < q) ∧
    (∀ {p : Nat} {id : Id} {r : Rq} {o : Rs}, s.log[p]? = some (.proc id r o) →
      ∃ a e, a < e ∧ e < p ∧ s.log[a]? = some (.call id r) ∧ s.log[e]? = some (.enq id r)) ∧
    (∀ {k : Nat} {id : Id} {o : Rs}, s.log[k]? = some (.ret id o) →
      ∃ p, p < k ∧ ∃ r, s.log[p]? = some (.proc id r o)) := by
  refine ⟨fun hp hq hlt => program_order h hp hq hlt,
    fun hi hf hj hij hp hq => realtime_order h hi hf hj hij hp hq, ?_, fun hk => ret_after_proc h hk⟩
  intro p id r o hp
  obtain ⟨e, hep, he⟩ := proc_after_enq h hp
  obtain ⟨a, hae, ha⟩ := enq_after_call h he
  exact ⟨a, e, hae, hep, ha, he⟩

/-- **C09 (linearizability).**  There is a total order `lin` on the processed requests (the `proc`
    log) that extends every client's program order and real-time precedence, such that the
    sequential execution of one limiter in that order produces the current limiter state and
    exactly the responses that were returned to the clients. -/
theorem C09_linearizable (h : Reach M n l0 s) :
    ∃ lin : List (Id × Rq × Rs),
      -- `lin` lists the processed requests, each exactly once
      (lin.map (·.1)).Nodup ∧
      (∀ id r rs, (id, r, rs) ∈ lin ↔ Event.proc id r rs ∈ s.log) ∧
      -- they are the requests of the clients' programs
      (∀ c i r rs, ((c, i), r, rs) ∈ lin → (M.prog c)[i]? = some r) ∧
      -- one limiter, run sequentially in that order, gives these responses and the current state
      seqRun M.lim l0 (lin.map (·.2.1)) = some (s.lim, lin.map (·.2.2)) ∧
      -- every response returned to a client is the one of its request in `lin`
      (∀ (k : Nat) (id : Id) (rs : Rs), s.log[k]? = some (Event.ret id rs) →
        ∃ r, (id, r, rs) ∈ lin ∧ (M.prog id.1)[id.2]? = some r) ∧
      -- `lin` extends program order
      (∀ (a b c i1 i2 : Nat) (r1 r2 : Rq) (o1 o2 : Rs), lin[a]? = some ((c, i1), r1, o1) →
        lin[b]? = some ((c, i2), r2, o2) → i1 < i2 → a < b) ∧
      -- `lin` extends real-time precedence
      (∀ (a b : Nat) (id1 id2 : Id) (r1 r2 : Rq) (o1 o2 : Rs) (i j : Nat) (e1 : Event Rq Rs) (r2' : Rq),
        lin[a]? = some (id1, r1, o1) → lin[b]? = some (id2, r2, o2) →
        s.log[i]? = some e1 → e1.finishes id1 → s.log[j]? = some (Event.call id2 r2') → i < j → a < b) := by
  have hnd := (inv_proc_queue_nodup h).1
  refine ⟨procLog s.log, hnd, fun id r rs => mem_procLog, ?_, C09_sequential h, ?_, ?_, ?_⟩
  · intro c i r rs hm
    exact proc_req h (mem_procLog.mp hm)
  · intro k id rs hk
    obtain ⟨j, _, r, hj, hr, _⟩ := C09_delivery h hk
    exact ⟨r, mem_procLog.mpr (List.mem_of_getElem? hj), hr⟩
  · intro a b c i1 i2 r1 r2 o1 o2 ha hb hlt
    exact procLog_lt_of_log_lt hnd ha hb (fun p q hp hq => program_order h hp hq hlt)
  · intro a b id1 id2 r1 r2 o1 o2 i j e1 r2' ha hb hi hf hj hij
    exact procLog_lt_of_log_lt hnd ha hb fun p q hp hq => realtime_order h hi hf hj hij hp hq

/-- **C09 (burst), generic form.**  `N` clients each issue ONE request `r0` (the same key, limits,
    quantity and timestamp).  If the SEQUENTIAL limiter allows exactly `min N B` of `N` copies of
    `r0` (for the GCRA model on a fresh key with burst `B`, quantity 1 and one timestamp this is the
    single-key fact "a fresh bucket allows exactly the first `B`"; it is the hypothesis `hseq`, to
    be discharged by the caller for the concrete limiter), then in every run in which all `N`
    requests have been processed — whatever the interleaving, the queue capacity and the
    cancellations — exactly `min N B` of the computed responses are allowed. -/
theorem C09_burst {isAllowed : Rs → Bool} {r0 : Rq} {N B : Nat}
    (hprog : ∀ c, M.prog c = [r0])
    (hseq : ∀ lf os, seqRun M.lim l0 (List.replicate N r0) = some (lf, os) →
      (os.filter isAllowed).length = min N B)
    (h : Reach M N l0 s)
    (hall : (procLog s.log).length = N) :
    (((procLog s.log).map (·.2.2)).filter isAllowed).length = min N B := by
  have hreq : (procLog s.log).map (·.2.1) = List.replicate N r0 := by
    rw [← hall]
    apply List.eq_replicate_iff.mpr
    refine ⟨by simp, ?_⟩
    intro r hr
    obtain ⟨⟨⟨c, i⟩, r', rs⟩, hm, rfl⟩ := List.mem_map.mp hr
    exact (proc_of_single hprog h hm).2
  have := C09_sequential h
  rw [hreq] at this
  exact hseq _ _ this

theorem procLog_length_of_all {r0 : Rq} {N : Nat} (hprog : ∀ c, M.prog c = [r0]) (h : Reach M N l0 s)
    (hall : ∀ c, c < N → ∃ rs, Event.proc (c, 0) r0 rs ∈ s.log) : (procLog s.log).length = N := by
  -- the processed ids are distinct and among `(0, 0), …, (N - 1, 0)`; each of these is processed
  apply Nat.le_antisymm
  · have hsub : (procLog s.log).map (·.1) ⊆ (List.range N).map (fun c => (c, 0)) := by
      intro id hid
      obtain ⟨⟨⟨c, i⟩, r', rs⟩, hm, rfl⟩ := List.mem_map.mp hid
      cases (proc_of_single hprog h hm).1
      have he := (inv_enq_iff h).mpr (.inl ⟨rs, mem_procLog.mp hm⟩)
      exact List.mem_map.mpr ⟨c, List.mem_range.mpr (inv_tick_le h he rfl).1, rfl⟩
    simpa using (inv_proc_queue_nodup h).1.length_le_of_subset hsub
  · have hsub : List.range N ⊆ (procLog s.log).map (·.1.1) := by
      intro c hc
      obtain ⟨rs, hrs⟩ := hall c (List.mem_range.mp hc)
      exact List.mem_map.mpr ⟨((c, 0), r0, rs), mem_procLog.mpr hrs, rfl⟩
    simpa using List.nodup_range.length_le_of_subset hsub

/-- **C09 (burst), GCRA instance.**  `N` clients — on whichever transports — each issue ONE unit
    request on the same fresh key with the same limits and the same timestamp, against the GCRA
    model over any store kind / configuration (initially empty).  Domain hypotheses: burst
    `B ≥ 1`, emission interval `E = emissionInterval count period ≥ 1 ns`, `B·E ≤ 2^60 ns`
    (≈ 36 years), timestamp between 1970 and 2100 — inside it no saturation occurs and refill
    within one instant is nil.  Then in every run in which all `N` requests have been processed,
    exactly `min N B` of them were allowed. -/
theorem C09_burst_gcra {M : Sys AnyStore Req Outcome} {N : Nat} {l0 : AnyStore}
    {s : State AnyStore Req Outcome} (r0 : Req) (E B : Int)
    (hM : M.lim = gcraLimiter) (hprog : ∀ c, M.prog c = [r0]) (hl0 : l0.data = [])
    (hq : r0.qty = 1) (hb : r0.burst = B) (hcount : 0 < r0.count) (hperiod : 0 < r0.period)
    (hei : emissionInterval r0.count r0.period = E) (hE : 1 ≤ E) (hB : 1 ≤ B) (hBE : B * E ≤ TWO60)
    (hn0 : 0 ≤ r0.now) (hn1 : r0.now ≤ T_MAX)
    (h : Reach M N l0 s) (hall : (procLog s.log).length = N) :
    (((procLog s.log).map (·.2.2)).filter Outcome.allowed).length = min N B.toNat := by
  have hstep : StepD E B r0.now r0 :=
    ⟨⟨hE, hB, hBE⟩, hb, ⟨by rw [hq]; decide, by rw [hb]; exact hB, hcount, hperiod⟩, Int.le_refl _, hn0, hn1⟩
  refine C09_burst (isAllowed := Outcome.allowed) (B := B.toNat) hprog ?_ h hall
  intro lf os hseq
  rw [hM, seqRun_gcra] at hseq
  cases hseq
  exact gcra_unit_burst r0 E B N l0 hl0 hq hei hstep

/-- **tie to `main.rs` / `store.rs`** (regenerated from the source on every run): exactly one limiter
    is created, one `Metrics` instance is built, and every one of the three transports is started
    with a handle that is a `clone()` of that one limiter - so all transports feed the single
    actor whose behaviour the theorems above describe.  (`store.rs` spawns one actor per store-kind
    branch of a `match`, i.e. exactly one at run time.) -/
theorem C09_tie_single_limiter :
    Gen.MAIN_CREATE_LIMITER_CALLS = 1 ∧ Gen.MAIN_TRANSPORT_STARTS = 3 ∧
    Gen.MAIN_HANDLES_CLONED_FROM_LIMITER = 3 ∧ Gen.MAIN_METRICS_BUILDS = 1 ∧ Gen.STORE_SPAWN_CALLS = 3 := by decide

example : (run? toySys (init 2 0) [.call 0, .call 1, .enq 0]).bind (fun s => step? toySys s (.enq 1)) = none := by
  decide

example : (run? toySys (init 2 0) toyLabels).map (fun s => (procLog s.log, s.lim, s.replies)) =
    some ([((0, 0), 1, true), ((1, 0), 1, false)], 1, []) := by
  rfl

example : ∃ s, Reach toySys 2 0 s ∧ (((procLog s.log).map (·.2.2)).filter id).length = min 2 1 := by
  obtain ⟨s, hs, hlen, _⟩ := toy_reach
  refine ⟨s, hs, C09_burst (B := 1) (r0 := 1) (fun _ => rfl) ?_ hs hlen⟩
  intro lf os h
  cases h
  decide

/-- burst 2, 1 per 60 s, probabilistic store: of 3 simultaneous unit requests on a fresh key the
    first two to be processed are allowed -/
example :
    let r0 : Req := ⟨"k", 2, 1, 60, 1, 1700000000000000000⟩
    let M : Sys AnyStore Req Outcome := { lim := gcraLimiter, cap := 1, prog := fun _ => [r0] }
    (run? M (init 3 (.prob ⟨[], 0, 3⟩))
        [.call 2, .call 0, .call 1, .enq 1, .proc, .enq 2, .proc, .enq 0, .ret 2, .proc, .ret 0, .ret 1]).map
      (fun s => (procLog s.log).map (fun p => (p.1, p.2.2.allowed))) =
      some [((1, 0), true), ((2, 0), true), ((0, 0), false)] := by
  rfl

end TcVerif.Actor
