/-
  C10 (RESP half) — exactly one reply per command, in command order, however the commands are
  pipelined or split across packets.
-/
import TcVerif.Lemmas.RespConn

namespace TcVerif.Resp

open TcVerif.Gen

/-- For every chunking of a stream `s` that does not hit the 64 KiB cap, against a stateful limiter
    started in `st`:  the decoded commands are the frames of the WHOLE stream (`frames`:
    successive `parse` results up to and including the first QUIT, stopping at the first malformed
    or unfinished frame); the bytes written are the concatenation, in order, of the encodings of
    the replies to exactly these commands (`replies` threads the limiter state through them, one
    reply per command); and the limiter ends in the state reached by exactly these commands. -/
theorem C10_resp_one_reply_per_command {σ : Type} (actor : σ → ThrottleReq → ActorAnswer × σ)
    (upperOf : List UInt8 → List UInt8) (st : σ) (s : List UInt8) (cs : List (List UInt8))
    (h : IsChunking cs s) (hno : (connRunS actor upperOf st cs).end ≠ .overflow) :
    (connRunS actor upperOf st cs).cmds = frames upperOf s.length s ∧
    (connRunS actor upperOf st cs).out
      = ((replies actor upperOf st (frames upperOf s.length s)).1.map encode).flatten ∧
    (connRunS actor upperOf st cs).st = (replies actor upperOf st (frames upperOf s.length s)).2 ∧
    (replies actor upperOf st (frames upperOf s.length s)).1.length
      = (frames upperOf s.length s).length := by
  obtain ⟨rfl, hcs⟩ := h
  have e := (connRunS_stream actor upperOf st cs).2.2 (fun c hc => (hcs c hc).1) hno
  simp only [streamRun, drain_cmds, Prod.mk.injEq] at e
  have ho := (connRunS_runs actor upperOf st cs).out_st
  rw [e.2.2.1] at ho
  exact ⟨e.2.2.1, ho.1, ho.2, replies_length actor upperOf st _⟩

/-- stateless form, as bytes: `connRun` writes `encode (respond cmd)` for each frame, in order -/
theorem C10_resp_one_reply_per_command_stateless (actor : ThrottleReq → ActorAnswer)
    (upperOf : List UInt8 → List UInt8) (s : List UInt8) (cs : List (List UInt8))
    (h : IsChunking cs s) (hno : (connRun actor upperOf cs).2 ≠ .overflow) :
    (connRun actor upperOf cs).1
      = ((frames upperOf s.length s).map fun v => encode (respond actor upperOf v)).flatten := by
  have := C10_resp_one_reply_per_command (liftActor actor) upperOf () s cs h hno
  show (connRunS (liftActor actor) upperOf () cs).out = _
  rw [this.2.1, replies_lift, List.map_map]
  rfl

/-- overflow clause: in EVERY run (capped or not) the decoded commands are an initial segment of
    the stream's frames, and the bytes written are the replies to exactly that segment, one reply
    per command, in order -/
theorem C10_resp_prefix {σ : Type} (actor : σ → ThrottleReq → ActorAnswer × σ)
    (upperOf : List UInt8 → List UInt8) (st : σ) (s : List UInt8) (cs : List (List UInt8))
    (h : IsChunking cs s) :
    ∃ k, (connRunS actor upperOf st cs).cmds = (frames upperOf s.length s).take k ∧
      (connRunS actor upperOf st cs).out
        = ((replies actor upperOf st ((frames upperOf s.length s).take k)).1.map encode).flatten ∧
      (connRunS actor upperOf st cs).st
        = (replies actor upperOf st ((frames upperOf s.length s).take k)).2 := by
  obtain ⟨rfl, _⟩ := h
  have hp := (connRunS_stream actor upperOf st cs).2.1
  simp only [streamRun, drain_cmds] at hp
  have hk := List.prefix_iff_eq_take.mp hp
  have ho := (connRunS_runs actor upperOf st cs).out_st
  refine ⟨_, hk, ?_, ?_⟩
  · rw [← hk]; exact ho.1
  · rw [← hk]; exact ho.2

/-- and each of those replies is exactly one RESP frame (C14), provided the upper-casing oracle
    keeps strings valid UTF-8 and the limiter's answers are sane (`i64` fields, error text valid
    UTF-8 without CR LF) -/
theorem C10_resp_replies_are_frames {σ : Type} (actor : σ → ThrottleReq → ActorAnswer × σ)
    (upperOf : List UInt8 → List UInt8) (st : σ) (cs : List (List UInt8))
    (hup : ∀ s, validUtf8 s = true → validUtf8 (upperOf s) = true)
    (hact : ∀ st req, AnswerOK (actor st req).1) :
    ∀ r ∈ (replies actor upperOf st (connRunS actor upperOf st cs).cmds).1, ∀ x,
      parse (encode r ++ x) = .ok r (encode r).length := by
  intro r hr x
  have hwf := replies_wf hup hact st _
    (connRunS_runs actor upperOf st cs).cmds_wf r hr
  rw [WF_iff] at hwf
  exact roundtrip _ RESP_MAX_DEPTH hwf.1 hwf.2 x

def exUpper (s : List UInt8) : List UInt8 := s.map fun c => if 97 ≤ c ∧ c ≤ 122 then c - 32 else c
def exActor (_ : ThrottleReq) : ActorAnswer := .ok true 10 9 60 0

/-- two pipelined commands (PING hi, THROTTLE k 10 100 60) cut in the middle of a bulk string -/
example :
    connRun exActor exUpper
      [b!"*2\r\n$4\r\nping\r\n$2\r\nhi\r\n*5\r\n$8\r\nthro", b!"ttle\r\n$1\r\nk\r\n$2\r\n10\r\n:100\r\n$2\r\n60\r\n"]
    = (b!"$2\r\nhi\r\n*5\r\n:1\r\n:10\r\n:9\r\n:60\r\n:0\r\n", .open []) := by rfl

def exCounter (n : Nat) (_ : ThrottleReq) : ActorAnswer × Nat :=
  (.ok (n == 0) 1 0 60 (if n == 0 then 0 else 60), n + 1)

def exThrottle : List UInt8 := b!"*5\r\n$8\r\nTHROTTLE\r\n$1\r\nk\r\n:1\r\n:1\r\n:60\r\n"

/-- two pipelined THROTTLEs, cut into 7-byte reads: first allowed, second denied, in order -/
example :
    let r := connRunS exCounter exUpper 0
      [exThrottle.take 7, (exThrottle.drop 7).take 7, (exThrottle.drop 14) ++ exThrottle.take 20,
       exThrottle.drop 20]
    (r.out, r.cmds.length, r.st) =
      (b!"*5\r\n:1\r\n:1\r\n:0\r\n:60\r\n:0\r\n*5\r\n:0\r\n:1\r\n:0\r\n:60\r\n:60\r\n", 2, 2) := by
  decide +kernel

example : IsChunking
    [b!"*2\r\n$4\r\nping\r\n$2\r\nhi\r\n*5\r\n$8\r\nthro", b!"ttle\r\n$1\r\nk\r\n$2\r\n10\r\n:100\r\n$2\r\n60\r\n"]
    b!"*2\r\n$4\r\nping\r\n$2\r\nhi\r\n*5\r\n$8\r\nthrottle\r\n$1\r\nk\r\n$2\r\n10\r\n:100\r\n$2\r\n60\r\n" := by
  unfold IsChunking
  decide +kernel

end TcVerif.Resp
