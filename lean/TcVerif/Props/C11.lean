/-
  C11 — No poison request (the part about the actor pipeline).

  `Total lim` = "the limiter step never panics, whatever the request" — for the real code this is
  C08 (established on the library side); the GCRA model `gcraLimiter` is total by construction.
  Under totality no prefix of traffic, whatever its contents, can kill the actor, and a request
  issued after any prefix gets exactly the answer of the sequential limiter.  Without totality one
  panicking request makes every later request fail (this is what the pinned tree does).
-/
import TcVerif.Lemmas.ActorGcra
import TcVerif.Lemmas.ActorProgress
import TcVerif.Lemmas.ActorToy
import TcVerif.Props.C03  -- for `C03_probe_is_cell_step`
namespace TcVerif.Actor
variable {L Rq Rs : Type}
variable {M : Sys L Rq Rs} {n : Nat} {l0 : L} {s : State L Rq Rs}

/-- **C11 (the actor never dies).**  If the limiter step is total then in every reachable state the
    actor is alive, `actorPanic` and `fail` are not enabled, and neither ever occurred. -/
theorem C11_actor_never_dies (htot : Total M.lim) (h : Reach M n l0 s) :
    s.alive = true ∧
    (∀ id r, Event.panic id r ∉ s.log) ∧ (∀ id, Event.fail id ∉ s.log) ∧
    (∀ s', ¬ Step M s .actorPanic s') ∧ (∀ c s', ¬ Step M s (.fail c) s') := by
  have ha := inv_alive_of_total htot h
  refine ⟨ha, fun id r hp => absurd (ha.symm.trans ((inv_alive h).mpr ⟨id, r, hp⟩)) (by decide),
    fun id => not_failed_of_alive h ha, ?_, ?_⟩
  · intro s' hst
    cases hst
    exact htot _ _ ‹_›
  · intro c s' hst
    cases hst <;> exact absurd (ha.symm.trans ‹s.alive = false›) (by decide)

/-- **C11 (probe).**  Under totality, after ANY reachable state — any prefix of requests with any
    contents, any cancellations — in which the earlier requests have been processed (empty queue),
    a client `c` that now issues its next request `r` can run `call; enq; proc; ret` (capacity ≥ 1),
    this run is the only one with these labels, and it returns exactly the response of the
    sequential limiter run over the `proc` log followed by `r`. -/
theorem C11_probe_correct (htot : Total M.lim) (hcap : 1 ≤ M.cap) (h : Reach M n l0 s)
    (hq : s.queue = []) {c pc : Nat} {r : Rq}
    (hc : s.clients[c]? = some ⟨pc, .idle⟩) (hr : (M.prog c)[pc]? = some r) :
    ∃ l' rs s',
      M.lim.step s.lim r = some (l', rs) ∧
      seqRun M.lim l0 ((procLog s.log).map (·.2.1) ++ [r]) = some (l', (procLog s.log).map (·.2.2) ++ [rs]) ∧
      Run M s [.call c, .enq c, .proc, .ret c] s' ∧
      (∀ s'', Run M s [.call c, .enq c, .proc, .ret c] s'' → s'' = s') ∧
      s'.log = s.log ++ [.call (c, pc) r, .enq (c, pc) r, .proc (c, pc) r rs, .ret (c, pc) rs] ∧
      s'.lim = l' ∧ s'.clients[c]? = some ⟨pc + 1, .idle⟩ := by
  have ha := inv_alive_of_total htot h
  obtain ⟨hnr, hna⟩ := inv_no_stale_slot h hc
  obtain ⟨⟨l', rs⟩, hstep⟩ := Option.ne_none_iff_exists'.mp (htot s.lim r)
  have hlt := (List.getElem?_eq_some_iff.mp hc).1
  refine ⟨l', rs, ?_⟩
  -- the run is computed: every guard that `step?` tests holds by one of these facts
  simp only [← run?_iff, run?, step?, hc, hr, hq, ha, hstep, hna, findReply_append_new hnr,
    seqRun_snoc (inv_sequential h) hstep, List.getElem?_set_self, List.length_set, hlt, List.length_nil,
    List.nil_append, Nat.lt_of_lt_of_le Nat.zero_lt_one hcap, and_self, true_and, if_true, if_false]
  exact ⟨_, rfl, fun _ h => (Option.some.inj h).symm, by simp, rfl, by simp [hlt]⟩

/-- **C11 (the totality hypothesis is needed).**  If the limiter step panics on the next request
    `r` of some client in a reachable state with an empty queue (capacity ≥ 1), there is a run —
    `call; enq; actorPanic` — after which, whatever happens next: the actor stays dead, nothing is
    ever processed again, no request called afterwards is ever answered, and every caller that is
    (or gets) stuck in `sending`/`waiting` can only `fail` ("actor has shut down") or give up. -/
theorem C11_poison_without_totality (hcap : 1 ≤ M.cap) (h : Reach M n l0 s) (ha : s.alive = true)
    (hq : s.queue = []) {c pc : Nat} {r : Rq}
    (hc : s.clients[c]? = some ⟨pc, .idle⟩) (hr : (M.prog c)[pc]? = some r)
    (hpanic : M.lim.step s.lim r = none) :
    ∃ s', Run M s [.call c, .enq c, .actorPanic] s' ∧ s'.alive = false ∧
      ∀ lbs s'', Run M s' lbs s'' →
        s''.alive = false ∧ procLog s''.log = procLog s'.log ∧ s''.lim = s'.lim ∧
        (∀ c' s3, ¬ Step M s'' (.enq c') s3) ∧ (∀ s3, ¬ Step M s'' .proc s3) ∧
        (∀ (j : Nat) (id : Id) (r' : Rq), s'.log.length ≤ j → s''.log[j]? = some (Event.call id r') →
          ∀ o, Event.ret id o ∉ s''.log) ∧
        (∀ c' pc', s''.clients[c']? = some ⟨pc', .sending⟩ → ∃ s3, Step M s'' (.fail c') s3) := by
  obtain ⟨s', hrun, hd⟩ : ∃ s', Run M s [.call c, .enq c, .actorPanic] s' ∧ s'.alive = false := by
    simp only [← run?_iff, run?, step?, hc, hr, hq, ha, hpanic, List.getElem?_set_self,
      (List.getElem?_eq_some_iff.mp hc).1, List.length_nil, List.nil_append,
      Nat.lt_of_lt_of_le Nat.zero_lt_one hcap, and_self, if_true]
    exact ⟨_, rfl, rfl⟩
  refine ⟨s', hrun, hd, ?_⟩
  intro lbs s'' hr''
  have hreach' := h.run hrun
  have hreach'' := hreach'.run hr''
  obtain ⟨d1, d2, d4, ext, d6⟩ := dead_run hd hr''
  refine ⟨d1, d2, d4, ?_, ?_, ?_, ?_⟩
  · intro c' s3 hst
    cases hst
    exact absurd (d1.symm.trans ‹s''.alive = true›) (by decide)
  · intro s3 hst
    cases hst
    exact absurd (d1.symm.trans ‹s''.alive = true›) (by decide)
  · intro j id r' hj hcall o hret
    obtain ⟨k, hk⟩ := List.getElem?_of_mem hret
    obtain ⟨p, _, r2, hp⟩ := ret_after_proc hreach'' hk
    -- that `proc`, hence its `enq`, was already in the log when the actor died: before the `call`
    have hmem : Event.proc id r2 o ∈ _ := mem_procLog.mp (d2 ▸ mem_procLog.mpr (List.mem_of_getElem? hp))
    obtain ⟨e, he⟩ := List.getElem?_of_mem ((inv_enq_iff hreach').mpr (.inl ⟨o, hmem⟩))
    have helt := (List.getElem?_eq_some_iff.mp he).1
    have he'' : s''.log[e]? = some (Event.enq id r2) := by
      rw [d6, List.getElem?_append_left helt]; exact he
    have := (tick_lt_iff hreach'' hcall he'' rfl rfl).mpr (Nat.lt_succ_self _)
    exact Nat.lt_asymm this (Nat.lt_of_lt_of_le helt hj)
  · intro c' pc' hc'
    exact ⟨_, .failSend hc' d1⟩

/-- the model limiter is total (a library error is an `Err` response, not a panic); for the real
    code this is C08 -/
theorem C11_gcra_total : Total gcraLimiter :=
  fun _ _ => nofun

/-- **C11 (probe on a fresh key, GCRA instance).**  With the GCRA model as the limiter (any store
    kind and configuration, initially empty), after any reachable state with an empty queue — the
    processed requests may have had any keys and any parameters, valid or not, timestamps
    non-decreasing — a request `r` on a key that no processed request used gets exactly the answer
    of a brand-new limiter: `rateLimit` on any empty store.  (Key isolation is C05.) -/
theorem C11_probe_fresh_key {M : Sys AnyStore Req Outcome} {n : Nat} {l0 : AnyStore}
    {s : State AnyStore Req Outcome} (hM : M.lim = gcraLimiter) (hcap : 1 ≤ M.cap)
    (h : Reach M n l0 s) (hl0 : l0.data = []) (hq : s.queue = []) {c pc : Nat} {r : Req}
    (hc : s.clients[c]? = some ⟨pc, .idle⟩) (hr : (M.prog c)[pc]? = some r)
    (t0 : Int) (hmono : MonotoneFrom t0 ((procLog s.log).map (·.2.1) ++ [r]))
    (hfresh : ∀ p ∈ procLog s.log, p.2.1.key ≠ r.key)
    (st' : AnyStore) (hst' : st'.data = []) :
    ∃ s', Run M s [.call c, .enq c, .proc, .ret c] s' ∧
      s'.log = s.log ++ [.call (c, pc) r, .enq (c, pc) r,
        .proc (c, pc) r (rateLimit AnyStore.ops st' r).2.1, .ret (c, pc) (rateLimit AnyStore.ops st' r).2.1] := by
  have htot : Total M.lim := hM ▸ C11_gcra_total
  obtain ⟨l', rs, s', _, hseq, hrun, _, hlog, _, _⟩ := C11_probe_correct htot hcap h hq hc hr
  refine ⟨s', hrun, ?_⟩
  suffices hrs : rs = (rateLimit AnyStore.ops st' r).2.1 by rw [hlog, hrs]
  -- the probe's answer on `l0` after the processed requests, and on the fresh store `st'`, is one
  -- step of the key's cell from the state the key's own earlier requests left: here there are none
  have hnone : ((procLog s.log).map (·.2.1)).filter (fun q => q.key = r.key) = [] := by
    apply List.filter_eq_nil_iff.mpr
    intro q hq'
    obtain ⟨p, hp, rfl⟩ := List.mem_map.mp hq'
    simpa using hfresh p hp
  have h1 := C03_probe_is_cell_step emissionInterval r.key _ r t0 l0 hl0 hmono rfl
  have h2 := C03_probe_is_cell_step emissionInterval r.key [] r r.now st' hst' ⟨Int.le_refl _, trivial⟩ rfl
  rw [hnone] at h1
  rw [hM, seqRun_gcra] at hseq
  have hresp := congrArg (fun p => p.2.getLast?) (Option.some.inj hseq)
  simp only [List.getLast?_map, h1, List.getLast?_append, List.getLast?_singleton, Option.map_some,
    Option.some_or, Option.some.injEq] at hresp
  rw [← hresp]
  exact (Prod.mk.inj (Option.some.inj h2)).2.symm

example : Total toyLim := fun _ _ => nofun

example : ∃ s, Reach toySys 2 0 s ∧ s.alive = true ∧ s.queue = [] :=
  let ⟨s, hs, _, _, hq⟩ := toy_reach
  ⟨s, hs, (C11_actor_never_dies (M := toySys) (fun _ _ => nofun) hs).1, hq⟩

def poisonLim : Limiter Nat Nat Bool where
  step l r := if r = 7 then none else some (l + r, true)

def poisonSys : Sys Nat Nat Bool :=
  { lim := poisonLim, cap := 1, prog := fun c => if c = 0 then [7] else [1] }

example : (run? poisonSys (init 2 0) [.call 0, .enq 0, .actorPanic, .call 1, .fail 1, .fail 0]).map
    (fun s => (s.alive, s.log)) =
    some (false, [.call (0, 0) 7, .enq (0, 0) 7, .panic (0, 0) 7, .call (1, 0) 1, .fail (1, 0), .fail (0, 0)]) := by
  rfl

example : (run? poisonSys (init 2 0) [.call 0, .enq 0, .actorPanic, .call 1]).bind
    (fun s => step? poisonSys s (.enq 1)) = none := by
  decide

/-- a hostile prefix (invalid limits, negative quantity, extreme values) on other keys, then a probe
    on a fresh key -/
example :
    let M : Sys AnyStore Req Outcome :=
      { lim := gcraLimiter, cap := 1,
        prog := fun c => if c = 0 then [⟨"a", -5, 0, 0, 7, 10⟩, ⟨"b", 9223372036854775807, 1, 9223372036854775807, 1, 11⟩,
                                         ⟨"a", 1, 1, 1, -1, 12⟩]
                         else [⟨"probe", 2, 1, 60, 1, 13⟩] }
    (run? M (init 2 (.prob ⟨[], 0, 1⟩))
        [.call 0, .enq 0, .proc, .ret 0, .call 0, .enq 0, .proc, .cancel 0, .call 0, .enq 0, .proc, .ret 0,
         .call 1, .enq 1, .proc, .ret 1]).map (fun s => (s.log.getLast?, s.alive)) =
      some (some (.ret (1, 0) (rateLimit AnyStore.ops (.amap AMap.empty) ⟨"probe", 2, 1, 60, 1, 13⟩).2.1), true) := by
  rfl

end TcVerif.Actor
