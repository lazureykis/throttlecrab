/-
  C16 — Denied-key tracking is bounded, never overstates, and exports safely.

  `Run max stream table`: `table` results from the denial stream `stream` (oldest first, keys of any
  length) by `ValidStep`s from the empty table, for EVERY tie-breaking of every cleanup.
  `trueCount stream k` is the ghost number of denials of `k`.  All theorems hold for every tracker
  size `max` (the server only builds trackers with `1 ≤ max ≤ 10000`, see `C16_clamp`).
-/
import TcVerif.Lemmas.MetricsTop
import TcVerif.Lemmas.MetricsEscape

namespace TcVerif.Metrics

/-- after every update the map holds at most `3*max` keys; transiently, inside one update (after
    the insert, before the cleanup), at most `3*max + 1` -/
theorem C16_size_bound {max : Nat} {s : List Key} {t : Table} (h : Run max s t) :
    t.length ≤ 3 * max ∧ ∀ k : Key, (bumpKey t k).length ≤ 3 * max + 1 :=
  ⟨(run_inv h).2.1, fun k => Nat.le_trans (length_bumpKey t k).2 (Nat.succ_le_succ (run_inv h).2.1)⟩

/-- no entry ever has a count above the true number of denials of its key (and every entry has
    been denied at least once, with a key of at most 256 bytes, keys distinct) -/
theorem C16_never_overstates {max : Nat} {s : List Key} {t : Table} (h : Run max s t) :
    (∀ k n, (k, n) ∈ t → 1 ≤ n ∧ n ≤ trueCount s k ∧ k.length ≤ 256) ∧
    (∀ k, cnt t k ≤ trueCount s k) ∧ KeysNodup t := by
  obtain ⟨hn, _, hall⟩ := run_inv h
  refine ⟨fun k n hm => hall (k, n) hm, ?_, hn⟩
  intro k
  by_cases hp : 0 < cnt t k
  · exact (hall _ (mem_of_cnt_pos hn hp)).2.1
  · omega

/-- while the number of distinct denied keys (of at most 256 bytes) seen so far is within the
    configured number, the table is exact: every key has its true count, the table has exactly
    one entry per distinct key, and every valid report lists every key with its true count -/
theorem C16_exact_while_few {max : Nat} {s : List Key} {t : Table} (h : Run max s t)
    (hfew : distinctShort s ≤ max) :
    (∀ k, cnt t k = if k.length ≤ 256 then trueCount s k else 0) ∧
    t.length = distinctShort s ∧
    ∀ report, ValidReport max t report →
      (∀ k ∈ s, k.length ≤ 256 → (k, trueCount s k) ∈ report) ∧
      report.length = distinctShort s := by
  have hex : Exact s t := run_exact h _ hfew fun k hk hl =>
    (mem_distinctKeys _ k).mpr ((mem_shortKeys s k).mpr ⟨hk, hl⟩)
  have hn := (run_inv h).1
  have hlen := exact_length h hex
  refine ⟨hex, hlen, fun report hr => ?_⟩
  have hfit : t.length ≤ max := hlen ▸ hfew
  refine ⟨fun k hk hl => ?_, by rw [hr.2.2.1, Nat.min_eq_right hfit, hlen]⟩
  have hc : cnt t k = trueCount s k := (hex k).trans (if_pos hl)
  have hpos : 0 < cnt t k := hc ▸ List.count_pos_iff.mpr hk
  exact hc ▸ report_complete hr hfit _ (mem_of_cnt_pos hn hpos)

/-- a key longer than 256 bytes leaves the table unchanged (as a map: tables are unordered) -/
theorem C16_long_keys_ignored {max : Nat} {t t' : Table} {k : Key} (hk : 256 < k.length)
    (h : ValidStep max t k t') :
    t'.Perm t ∧ (∀ x, cnt t' x = cnt t x) ∧ t'.length = t.length ∧ stepDet max t k = t := by
  have hp : t'.Perm t := (if_pos hk).mp h.2
  exact ⟨hp, cnt_perm hp, hp.length_eq, if_pos hk⟩

/-- every valid report (any tie-breaking): at most `max` keys, counts non-increasing, every omitted
    entry ≤ every listed one, every listed entry is a table entry whose count is at least 1 and at
    most the true number of denials, keys distinct -/
theorem C16_report {max : Nat} {s : List Key} {t : Table} {r : List (Key × Nat)}
    (h : Run max s t) (hr : ValidReport max t r) :
    r.length ≤ max ∧
    r.Pairwise (fun a b => a.2 ≥ b.2) ∧
    (∀ d ∈ t, d ∉ r → ∀ x ∈ r, d.2 ≤ x.2) ∧
    (∀ e ∈ r, e ∈ t ∧ 1 ≤ e.2 ∧ e.2 ≤ trueCount s e.1 ∧ e.1.length ≤ 256) ∧
    KeysNodup r := by
  obtain ⟨hn, hsub, hlen, hsorted, hom⟩ := hr
  refine ⟨by rw [hlen]; exact Nat.min_le_left _ _, hsorted, hom, ?_, hn⟩
  intro e he
  exact ⟨hsub e he, (run_inv h).2.2 e (hsub e he)⟩

/-- `max_denied_keys(n)`: the configured size is `min n 10000`; it is 0 exactly for `n = 0`, and
    then the tracker does not exist: nothing is ever kept and the export has no top-keys section.
    Otherwise the tracker is a `Run` of size `clampMax n ∈ 1..10000` (so all theorems above apply
    to it) -/
theorem C16_clamp (n : Nat) :
    clampMax n ≤ 10000 ∧ (n ≤ 10000 → clampMax n = n) ∧ (10000 ≤ n → clampMax n = 10000) ∧
    (clampMax n = 0 ↔ n = 0) ∧ (enabled (clampMax n) ↔ n ≠ 0) ∧
    (∀ m, MReachable n m → n = 0 →
      m.top = none ∧ keptKeys m = [] ∧ ∀ report, exportTop m.top report = []) ∧
    (∀ m, MReachable n m → n ≠ 0 →
      ∃ td stream, m.top = some td ∧ td.maxSize = clampMax n ∧ 1 ≤ td.maxSize ∧
        td.maxSize ≤ 10000 ∧ Run td.maxSize stream td.table) := by
  have hle : clampMax n ≤ 10000 := Nat.min_le_right ..
  have hz : clampMax n = 0 ↔ n = 0 := by
    rw [clampMax_eq, Nat.min_eq_zero_iff, or_iff_left (by decide)]
  refine ⟨hle, Nat.min_eq_left, Nat.min_eq_right, hz, not_congr hz, ?_, ?_⟩
  · intro m hm h0
    have := (top_run hm).1 (hz.mpr h0)
    exact ⟨this, by rw [keptKeys, this], fun report => by rw [this]; rfl⟩
  · intro m hm h0
    have hpos : clampMax n ≠ 0 := mt hz.mp h0
    obtain ⟨td, stream, h1, h2, h3⟩ := (top_run hm).2 hpos
    exact ⟨td, stream, h1, h2, h2 ▸ Nat.pos_of_ne_zero hpos, h2 ▸ hle, h2 ▸ h3⟩

/-- the default configuration tracks 100 keys -/
theorem C16_default : buildDefault = build 100 ∧ (build 100).top = some ⟨[], 100⟩ := by
  constructor <;> rfl

/-- for EVERY key: the escaped text contains no LF and no CR; a label lexer started after the
    opening quote stops exactly at the quote the exporter wrote, whatever follows (so no key can
    close the quote early, add a label or add a line); the whole sample line contains exactly one
    LF, at its end -/
theorem C16_escape_safe (k : List Char) :
    '\n' ∉ escapeLabel k ∧ '\r' ∉ escapeLabel k ∧
    (∀ rest, scanLabel (escapeLabel k ++ '"' :: rest) = some (escapeLabel k, rest)) ∧
    (∀ rank count, ∃ body, exportKeyLine k rank count = body ++ ['\n'] ∧ '\n' ∉ body) := by
  obtain ⟨hnb, hscan⟩ := inert_escapeLabel k
  refine ⟨fun h => (hnb _ h).1 rfl, fun h => (hnb _ h).2 rfl, ?_, ?_⟩
  · intro rest
    rw [hscan, scanLabel_quote]
    exact congrArg (fun l => some (l, rest)) (List.append_nil _)
  · intro rank count
    refine ⟨keyLinePrefix ++ escapeLabel k ++ '"' ::
      (rankInfix ++ natDigits (rank + 1) ++ closeInfix ++ natDigits count), ?_, ?_⟩
    · simp only [exportKeyLine, keyLineSuffix, List.append_assoc, List.cons_append]
    · have hpre : '\n' ∉ keyLinePrefix := by
        -- the literal's characters are read off, not decoded: see `hexDigit_lower`
        unfold keyLinePrefix
        rw [String.toList_ofList]
        decide
      have hkey : '\n' ∉ escapeLabel k := fun h => (hnb _ h).1 rfl
      have hrank : '\n' ∉ rankInfix := by decide
      have hclose : '\n' ∉ closeInfix := by decide
      have hd : ∀ n, '\n' ∉ natDigits n := fun n h => (natDigits_plain n _ h).2.2.1 rfl
      simp [hpre, hkey, hrank, hclose, hd]

/-- shape of the sample line as a Prometheus parser sees it: after the fixed prefix
    `throttlecrab_top_denied_keys{key="` the key label value is exactly the escaped key, the rest
    is `,rank="<rank+1>"} <count>\n`, whose rank label value is exactly the decimal rank and whose
    tail `} <count>\n` contains no quote, comma or brace-open: exactly two labels, one sample -/
theorem C16_line_shape (k : List Char) (rank count : Nat) :
    exportKeyLine k rank count = keyLinePrefix ++ (escapeLabel k ++ '"' :: keyLineSuffix rank count) ∧
    scanLabel (escapeLabel k ++ '"' :: keyLineSuffix rank count)
      = some (escapeLabel k, keyLineSuffix rank count) ∧
    keyLineSuffix rank count
      = rankInfix ++ (natDigits (rank + 1) ++ '"' :: ('}' :: ' ' :: natDigits count ++ ['\n'])) ∧
    scanLabel (natDigits (rank + 1) ++ '"' :: ('}' :: ' ' :: natDigits count ++ ['\n']))
      = some (natDigits (rank + 1), '}' :: ' ' :: natDigits count ++ ['\n']) ∧
    (∀ x ∈ natDigits count, x.isDigit = true) := by
  refine ⟨by simp only [exportKeyLine, List.append_assoc], (C16_escape_safe k).2.2.1 _, ?_, ?_,
    natDigits_digit count⟩
  · simp only [keyLineSuffix, closeInfix, List.append_assoc, List.cons_append, List.nil_append]
  · apply scanLabel_plain_run
    intro x hx
    have := natDigits_plain _ _ hx
    exact ⟨this.1, this.2.1⟩

/-- the executable checkers used by the harness decide the relations (sound and complete) -/
theorem C16_checkers (max : Nat) (t : Table) (k : Key) (t' : Table) (r : List (Key × Nat)) :
    (checkStep max t k t' = true ↔ ValidStep max t k t') ∧
    (checkReport max t r = true ↔ ValidReport max t r) :=
  ⟨decide_eq_true_iff, decide_eq_true_iff⟩

/-- the relations are inhabited: the deterministic tracker is a run on every stream, and its report
    is valid -/
theorem C16_inhabited (max : Nat) (s : List Key) :
    Run max s (runDet max s) ∧ ValidReport max (runDet max s) (reportDet max (runDet max s)) :=
  ⟨run_det max s, validReport_det (run_inv (run_det max s)).1⟩

/-- tracker of size 1: four distinct keys overflow `3*1`, the cleanup keeps one of the top keys -/
example : runDet 1 [[1], [2], [1], [3], [4]] = [([1], 2)] := by decide

example : Run 1 [[1], [2], [1], [3], [4]] [([1], 2)] := run_det 1 _

/-- ties are broken either way: both tables are valid results of the same cleanup -/
example : ValidStep 1 [([1], 1), ([2], 1), ([3], 1)] [4] [([2], 1)] ∧
    ValidStep 1 [([1], 1), ([2], 1), ([3], 1)] [4] [([4], 1)] := by decide

/-- but a kept entry below a dropped one is not -/
example : ¬ ValidStep 1 [([1], 2), ([2], 1), ([3], 1)] [4] [([4], 1)] := by decide

/-- the table really does under-count after a cleanup (the property only forbids over-counting):
    key `[4]` was denied twice, its first denial was dropped by the cleanup, it reports 1 -/
example : Run 1 [[1], [2], [3], [4], [4]] [([1], 1), ([4], 1)] ∧
    trueCount [[1], [2], [3], [4], [4]] [4] = 2 := by
  have h1 : Run 1 [[1], [2], [3]] (runDet 1 [[1], [2], [3]]) := run_det 1 _
  have h2 : Run 1 ([[1], [2], [3]] ++ [[4]]) [([1], 1)] := Run.snoc h1 (by decide)
  exact ⟨Run.snoc (stream := [[1], [2], [3], [4]]) h2 (by decide), by decide⟩

example : distinctShort [[1], [2], [1], [1]] = 2 ∧ runDet 2 [[1], [2], [1], [1]] = [([1], 3), ([2], 1)] ∧
    reportDet 2 (runDet 2 [[1], [2], [1], [1]]) = [([1], 3), ([2], 1)] := by decide

example (k : Key) (h : k.length = 257) : stepDet 5 [] k = [] := by
  unfold stepDet; rw [maxKeyLength_eq, if_pos (by omega)]

example (k : Key) (h : k.length = 256) : stepDet 5 [] k = [(k, 1)] := by
  unfold stepDet; rw [maxKeyLength_eq, growthFactor_eq, if_neg (by omega)]; rfl

example : checkReport 2 [([1], 2), ([2], 1), ([], 1)] [([1], 2), ([], 1)] = true ∧
    checkReport 2 [([1], 2), ([2], 1), ([], 1)] [([1], 2), ([2], 1)] = true ∧
    checkReport 2 [([1], 2), ([2], 1), ([], 1)] [([2], 1), ([1], 2)] = false := by decide

example : String.ofList (escapeLabel "a\"\n\\\r\t\x01\x1b\x7f\u0085€".toList)
    = "a\\\"\\n\\\\\\r\\t\\x01\\x1b\\x7f\\x85€" := by
  rw [String.toList_ofList]
  rfl

/-- the injection attempt `k",evil="1` stays inside the key label -/
example : scanLabel (escapeLabel "k\",evil=\"1".toList ++ "\",rank=\"1\"} 5\n".toList)
    = some ("k\\\",evil=\\\"1".toList, ",rank=\"1\"} 5\n".toList) := by
  rw [String.toList_ofList, String.toList_ofList, String.toList_ofList, String.toList_ofList]
  rfl

example : String.ofList (exportKeyLine "a\nb".toList 0 7)
    = "throttlecrab_top_denied_keys{key=\"a\\nb\",rank=\"1\"} 7\n" := by
  unfold exportKeyLine keyLinePrefix
  rw [String.toList_ofList, String.toList_ofList]
  rfl

/-- REMARK (not part of C16 as stated): `\r`, `\t` and `\xNN` are not escape sequences of the
    Prometheus text format 0.0.4 (only `\\`, `\"`, `\n` are); a STRICT parser rejects the sample
    line of a key containing e.g. a TAB, while the lenient lexer of the property accepts it -/
example : scanLabelStrict (escapeLabel ['a', '\t'] ++ ['"']) = none ∧
    scanLabel (escapeLabel ['a', '\t'] ++ ['"']) = some (['a', '\\', 't'], []) := by decide

end TcVerif.Metrics
