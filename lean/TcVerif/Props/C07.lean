/-
  C07 — State lives as long as it matters and is then actually reclaimed.

  Lifetime clause: on D, every write issued for an admitted request asks the store to keep the
  entry for `ttl` with  E ≤ ttl ≤ 2·B·E  (any reachable state, any quantity ≥ 1), and once that
  lifetime has passed the key answers exactly as a never-seen key — so forgetting is unobservable.
  Reclamation clause, per store model: a sweep leaves only unexpired entries; each store's
  guaranteed cleanup point really sweeps (periodic: a write at `now ≥ next_cleanup`; adaptive: a
  write at `now ≥ next_cleanup` or with the operation budget reached; probabilistic: the write
  whose operation number is a multiple of N ≥ 1, at every operation count); after such a
  write every held entry is unexpired and keys are pairwise distinct, so the table holds at
  most one entry per key that is still active.
-/
import TcVerif.Props.C03
import TcVerif.Lemmas.Cleanup
namespace TcVerif
open Data

/-- **lifetime bounds**: every write of an admitted request in D carries `E ≤ ttl ≤ 2·B·E` -/
theorem C07_ttl_bounds {E B : Int} (c : Cell) (b : Option Bucket) (t : Int) (r : Req)
    (h : StepD E B t r) (hrel : Rel E B c b t) :
    ∀ op ∈ (rateLimitE Cell.ops c E r).2.2, ∀ ttl, op.ttl? = some ttl → E ≤ ttl ∧ ttl ≤ 2 * (B * E) := by
  intro op hop ttl httl
  have f := (rel_step c b t r h hrel).1
  obtain ⟨hw, hr⟩ := f.ttl_of_mem hop httl
  have hE := h.dom.hE
  have hqE : 1 * E ≤ r.qty * E := Int.mul_le_mul_of_nonneg_right hw.2 (Int.le_of_lt hE)
  have hrf := Bucket.refill_le (B * E) b r.now
  obtain ⟨hp1, hp2⟩ := h.dom.pad_bounds
  -- the lifetime is `reset_after` = (B·E - level after the request) + (pad - E), the level being
  -- the refilled one less the request's cost `qty·E ≥ E`
  rw [hr, f.reset, lvlAfter, if_pos hw.1]
  omega

/-- a request that is denied or asks for quantity 0 writes nothing at all (no lifetime to bound) -/
theorem C07_no_write_unless_admitted {E B : Int} (c : Cell) (b : Option Bucket) (t : Int) (r : Req)
    (h : StepD E B t r) (hrel : Rel E B c b t)
    (hne : (rateLimitE Cell.ops c E r).2.1.allowed = false ∨ r.qty = 0) :
    ∀ op ∈ (rateLimitE Cell.ops c E r).2.2, op.ttl? = none := by
  intro op hop
  have f := (rel_step c b t r h hrel).1
  cases httl : op.ttl? with
  | none => rfl
  | some ttl =>
    exfalso
    have hw := (f.ttl_of_mem hop httl).1
    rcases hne with hne | hne
    · exact of_decide_eq_false (f.allowed ▸ hne) hw.1
    · omega

/-- **forgetting is unobservable**: once the lifetime asked of the store has passed, the key
    answers every request exactly as a key that was never seen -/
theorem C07_forgetting_unobservable {E B : Int} (c : Cell) (b : Option Bucket) (t : Int) (r : Req)
    (h : StepD E B t r) (hrel : Rel E B c b t) (x : Req) (hx : x.valid)
    (ht : r.now + (rateLimitE Cell.ops c E r).2.1.resetNs ≤ x.now) :
    (rateLimitE Cell.ops (rateLimitE Cell.ops c E r).1 E x).2.1 = (rateLimitE Cell.ops none E x).2.1 :=
  C03_reset_then_fresh c b t r h hrel x hx ht

/-- **sweep postcondition**: after a sweep at `now` every held entry has `expiry > now` -/
theorem C07_sweep_postcondition (d : Data) (now : Int) : ∀ e ∈ sweep d now, e.exp > now :=
  fun _ h => (mem_sweep h).1

/-- **PeriodicStore**: a write at `now ≥ next_cleanup` sweeps -/
theorem C07_guaranteed_trigger_periodic (s : Periodic) (now : Int) (h : now ≥ s.nextCleanup) :
    (s.maybeClean now).data = s.data.sweep now ∧ (s.maybeClean now).nextCleanup = now + s.interval := by
  rw [Periodic.maybeClean_of_due s now h]
  exact ⟨rfl, rfl⟩

/-- **AdaptiveStore**: a write at `now ≥ next_cleanup`, or one that reaches the operation budget, sweeps
    (whatever the expired-ratio / table-pressure triggers say) -/
theorem C07_guaranteed_trigger_adaptive (s : Adaptive) (now : Int)
    (h : now ≥ s.nextCleanup ∨ s.opsSince + 1 ≥ s.maxOps) :
    (s.maybeClean now).data = s.data.sweep now ∧ (s.maybeClean now).opsSince = 0 := by
  rw [Adaptive.maybeClean_of_due s now h]
  exact ⟨rfl, rfl⟩

/-- **probabilistic store: every N-th write is a cleanup point** - for EVERY operation count (the
    product `count * 2654435761` is formed in 128 bits since the repair, so it never wraps): the write
    whose operation number is a multiple of `N` sweeps. -/
theorem C07_guaranteed_trigger_probabilistic (s : Prob) (now : Int) (hN : 1 ≤ s.modulus)
    (hdiv : (s.opsCount + 1) % s.modulus = 0) :
    (s.maybeCleanup now).data = s.data.sweep now :=
  Prob.maybeCleanup_of_fires s now (Prob.fires_of_mod hN hdiv)

/-- ... so among ANY `N` consecutive writes (operation numbers `c+1 … c+N`) at least one sweeps,
    whatever the count `c` the store has reached -/
theorem C07_probabilistic_every_window (c N : Nat) (hN : 1 ≤ N) :
    ∃ i, i < N ∧ Prob.fires (c + 1 + i) N = true := by
  have hr : c % N < N := Nat.mod_lt _ hN
  have hc := Nat.div_add_mod c N
  -- the next multiple of `N` after `c`
  have hm : c + 1 + (N - 1 - c % N) = N * (c / N + 1) := by
    rw [Nat.mul_add, Nat.mul_one]
    omega
  exact ⟨N - 1 - c % N, by omega, Prob.fires_of_mod hN (by rw [hm, Nat.mul_mod_right])⟩

/-- and it is EXACTLY every N-th write when `N` has no factor in common with the multiplier (a prime
    above 2^31, so every `N` below it; the default 10 000 is checked below): no other write sweeps -/
theorem C07_probabilistic_trigger_exact (ops N : Nat) (hN : 1 ≤ N) (hc : Nat.Coprime N PROB_MULT) :
    Prob.fires ops N = true ↔ ops % N = 0 := by
  refine ⟨fun h => ?_, Prob.fires_of_mod hN⟩
  have h0 : N ≠ 0 := by omega
  simp only [Prob.fires, h0, if_false, decide_eq_true_eq] at h
  exact Nat.mod_eq_zero_of_dvd (hc.dvd_of_dvd_mul_right (Nat.dvd_of_mod_eq_zero h))

example : Nat.Coprime Gen.PROB_DEFAULT_MODULO PROB_MULT := by decide      -- the library default, 1000
example : Nat.Coprime 10000 PROB_MULT := by decide                       -- the server's default

/-- what was wrong before the repair (finding F8, `fixed` in KNOWN_FINDINGS.jsonl): with the 64-bit
    WRAPPING product the default store (`N = 1000`) in the state it has after 6 949 403 000 writes
    goes 1000 consecutive writes - in fact 1055 - without a cleanup; the server's default `N = 10 000`
    first does so after 34 747 006 224 writes (19 055 writes without a cleanup).  Each window starts
    right after a write that fires and contains one wrap of the product (after 87 resp. 9214 writes):
    up to the wrap the next write to fire would be the `N`-th, after it another residue class fires,
    and the window ends just before that class comes round (`Prob.firesWrapped_quiet` on either side
    of the wrap). -/
theorem C07_wrapped_trigger_gap :
    (∀ i, i < 1055 → Prob.firesWrapped (6949403000 + 1 + i) 1000 = false) ∧
    (∀ i, i < 19055 → Prob.firesWrapped (34747006224 + 1 + i) 10000 = false) := by
  constructor
  · intro i hi
    by_cases hw : i < 87
    · exact Prob.firesWrapped_quiet (a := 6949403001) (b := 6949403087) (inv := 841)
        (by decide) (by decide) (by decide) (by decide) _ (by omega) (by omega)
    · exact Prob.firesWrapped_quiet (a := 6949403088) (b := 6949404055) (inv := 841)
        (by decide) (by decide) (by decide) (by decide) _ (by omega) (by omega)
  · intro i hi
    by_cases hw : i < 9214
    · exact Prob.firesWrapped_quiet (a := 34747006225) (b := 34747015438) (inv := 5841)
        (by decide) (by decide) (by decide) (by decide) _ (by omega) (by omega)
    · exact Prob.firesWrapped_quiet (a := 34747015439) (b := 34747025279) (inv := 5841)
        (by decide) (by decide) (by decide) (by decide) _ (by omega) (by omega)

/-- the same writes under the repaired trigger: the 1000-th after 6 949 403 000 sweeps -/
example : Prob.fires (6949403000 + 1 + 999) 1000 = true := by decide +kernel

/-- with modulus 1 EVERY write sweeps, wrapped or not -/
theorem C07_guaranteed_trigger_probabilistic_every (s : Prob) (now : Int) (hN : s.modulus = 1) :
    (s.maybeCleanup now).data = s.data.sweep now :=
  Prob.maybeCleanup_of_fires s now (Prob.fires_of_mod (by omega) (by rw [hN, Nat.mod_one]))

/-- **after a guaranteed cleanup point** every held entry is unexpired (the entry just written is
    unexpired too whenever its lifetime is positive - on D it is ≥ E ≥ 1 ns by `C07_ttl_bounds`),
    and keys stay pairwise distinct: at most one entry per still-active key is held. -/
theorem C07_reclaimed_periodic (s : Periodic) (hd : NodupKeys s.data) (k : Key) (v ttl now : Int) (h : now ≥ s.nextCleanup) :
    AllLiveExcept (Periodic.ops.setnx s k v ttl now).1.data now k ∧ NodupKeys (Periodic.ops.setnx s k v ttl now).1.data :=
  cleanup_point_reclaimed (.periodic s) hd now h k none v ttl

theorem C07_reclaimed_adaptive (s : Adaptive) (hd : NodupKeys s.data) (k : Key) (v ttl now : Int)
    (h : now ≥ s.nextCleanup ∨ s.opsSince + 1 ≥ s.maxOps) :
    AllLiveExcept (Adaptive.ops.setnx s k v ttl now).1.data now k ∧ NodupKeys (Adaptive.ops.setnx s k v ttl now).1.data :=
  cleanup_point_reclaimed (.adaptive s) hd now h k none v ttl

theorem C07_reclaimed_probabilistic (s : Prob) (hd : NodupKeys s.data) (k : Key) (v ttl now : Int)
    (hN : 1 ≤ s.modulus) (hdiv : (s.opsCount + 1) % s.modulus = 0) :
    AllLiveExcept (Prob.ops.setnx s k v ttl now).1.data now k ∧ NodupKeys (Prob.ops.setnx s k v ttl now).1.data :=
  cleanup_point_reclaimed (.prob s) hd now ⟨hN, hdiv⟩ k none v ttl

/-- **the counting step**: the table holds at most one entry per key (keys are pairwise distinct), so
    if every held entry belongs to a key of the active set `A` - after a guaranteed cleanup point
    that is every key whose state is unexpired plus the key just written (`AllLiveExcept`) - the
    number of stored entries is at most `|A|`, however many keys were ever seen. -/
theorem C07_entries_bounded_by_active (d : Data) (A : List Key) (hd : NodupKeys d)
    (hA : ∀ e ∈ d, e.key ∈ A) : d.length ≤ A.length := by
  have := (nodupKeys_iff.mp hd).length_le_of_subset (l₂ := A) fun k hk => by
    obtain ⟨e, he, rfl⟩ := List.mem_map.mp hk
    exact hA e he
  rwa [List.length_map] at this

/-- **bounded over an unbounded history**: start from any store without duplicate keys (e.g. an empty
    one), run ANY sequence of operations - any number of keys ever seen, any times - and let the next
    write, at time `now` on key `k`, fall on a guaranteed cleanup point.  If `A` lists the keys that
    still matter (the key being written and every key whose stored state has not yet expired at `now`)
    the table holds at most `|A|` entries afterwards: physical size follows the ACTIVE set, not the
    history.  Holds for `set_if_not_exists` and for `compare_and_swap` writes on all three stores. -/
theorem C07_bounded_over_history (st0 : AnyStore) (hd0 : NodupKeys st0.data) (ops : List SOp)
    (now : Int) (k : Key) (a b ttl : Int) (A : List Key)
    (hdue : (finalStore st0 ops).cleanupDue now)
    (hk : k ∈ A)
    (hA : ∀ e ∈ (finalStore st0 ops).data, e.exp > now → e.key ∈ A) :
    (AnyStore.ops.setnx (finalStore st0 ops) k a ttl now).1.data.length ≤ A.length ∧
    (AnyStore.ops.cas (finalStore st0 ops) k a b ttl now).1.data.length ≤ A.length := by
  have hd := finalStore_nodup st0 hd0 ops
  have bound : ∀ (tv : Option Int) (new : Int),
      (AnyStore.ops.put (finalStore st0 ops) k tv new ttl now).1.data.length ≤ A.length := by
    intro tv new
    apply C07_entries_bounded_by_active _ A (anyStore_put_nodup _ hd k tv new ttl now)
    intro e he
    rcases cleanup_point_survivors _ now hdue k tv new ttl e he with h | ⟨h1, h2⟩
    · exact h ▸ hk
    · exact hA e h2 h1
  exact ⟨bound none a, bound (some a) b⟩

/-- non-vacuity: 5 writes of fresh keys with 10 ns lifetimes on a periodic store (interval 50), then a
    write at the cleanup instant: one key active, one entry held -/
def exHist : AnyStore := finalStore (.periodic ⟨[], 50, 50, 0⟩)
  [.setnx "a" 1 10 0, .setnx "b" 1 10 1, .setnx "c" 1 10 2, .setnx "d" 1 10 3, .setnx "e" 1 10 4]

example : exHist.data.length = 5 ∧ (60 : Int) ≥ 50 ∧
    (AnyStore.ops.setnx exHist "f" 1 10 60).1.data.length = 1 := by decide

/-! #### non-vacuity: a periodic store holding two expired and one live entry, written at its cleanup instant -/
example : (Periodic.ops.setnx ⟨[⟨"a", 1, 5⟩, ⟨"b", 2, 100⟩, ⟨"c", 3, 9⟩], 10, 60, 0⟩ "n" 7 30 10).1.data
    = [⟨"n", 7, 40⟩, ⟨"b", 2, 100⟩] := by decide

end TcVerif
