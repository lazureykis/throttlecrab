/-
  C02 — No unjust denial: decisions equal the ideal GCRA / token bucket, nothing starves a key.

  Spec: `TcVerif/Model/Bucket.lean` — capacity `B*E` ns of credit, refilled by 1 ns per ns, a
  request of `q` tokens costs `q*E`; a never-seen key is a full bucket.  The spec has no TAT,
  no expiry, no store.
  Implementation model: `rateLimitE` over ANY store (kind, configuration, cleanup schedule),
  multi-key histories with globally non-decreasing timestamps; the key under observation
  uses fixed limits in the domain D (`FixedD`: burst ≥ 1, E ≥ 1 ns, B·E ≤ 2^60 ns, valid
  quantities ≥ 0 of ANY size incl. 0 and > burst, 0 ≤ time ≤ 2100-01-01); the other keys'
  requests are arbitrary (any limits, valid or not).
-/
import TcVerif.Lemmas.History
import TcVerif.Props.C05
import TcVerif.Props.C18
namespace TcVerif

/-- **C02 (refinement).** Every decision (and the reported remaining tokens) for key `k`, at every
    step of every history, equals that of the ideal token bucket started full. -/
theorem C02_refines_bucket (ei : Int → Int → Int) (k : Key) (rs : List Req) (t0 : Int) (E B : Int)
    (st : AnyStore) (hst : st.data = []) (hm : MonotoneFrom t0 rs)
    (hfix : FixedD ei E B t0 (rs.filter (fun r => r.key = k))) :
    ((runTagged AnyStore.ops ei st rs).filter (fun p => p.1.key = k)).map (fun p => (p.2.allowed, p.2.remaining))
      = Bucket.runFull B E none ((rs.filter (fun r => r.key = k)).map reqTQ) := by
  rw [C05_projection_to_cell ei k rs t0 st hst hm]
  exact (cell_run_bucket _ t0 none none hfix (rel_fresh E B t0)).1

/-- every such request is answered with a result (never an error), with `limit = max_burst` -/
theorem C02_always_answered (ei : Int → Int → Int) (k : Key) (rs : List Req) (t0 : Int) (E B : Int)
    (st : AnyStore) (hst : st.data = []) (hm : MonotoneFrom t0 rs)
    (hfix : FixedD ei E B t0 (rs.filter (fun r => r.key = k))) :
    ∀ p ∈ (runTagged AnyStore.ops ei st rs).filter (fun p => p.1.key = k), p.2.isOk = true ∧ p.2.limit = B := by
  rw [C05_projection_to_cell ei k rs t0 st hst hm]
  exact (cell_run_bucket _ t0 none none hfix (rel_fresh E B t0)).2.1

/-- where the bucket chain meets the float chain: the hypotheses of the `_rate_limit` forms of C01
    and C02 (limits `(B, c, p)` in the properties' domain, the interval as the code computes it,
    there `p·10⁹ / c` by `C18_floor`) put `k`'s sub-history into `FixedD` -/
theorem fixedD_of_rate_limit_hyps (k : Key) (rs : List Req) (t0 : Int) (B c p : Int) (hm : MonotoneFrom t0 rs)
    (hp1 : 1 ≤ p) (hp2 : p ≤ 9000000) (hc1 : 1 ≤ c) (hc2 : c ≤ p * 1000000000) (hB : 1 ≤ B)
    (hBE : B * (p * 1000000000 / c) ≤ TWO60)
    (hreqs : ∀ r ∈ rs, r.key = k → r.burst = B ∧ r.count = c ∧ r.period = p ∧ 0 ≤ r.qty ∧ 0 ≤ r.now ∧ r.now ≤ T_MAX) :
    DomD (p * 1000000000 / c) B ∧
    FixedD emissionInterval (p * 1000000000 / c) B t0 (rs.filter (fun r => r.key = k)) := by
  have hE1 : 1 ≤ p * 1000000000 / c :=
    (Int.le_ediv_iff_mul_le hc1).mpr (by omega)
  have hD : DomD (p * 1000000000 / c) B := ⟨hE1, hB, hBE⟩
  refine ⟨hD, fixedD_of_forall emissionInterval _ B k rs t0 hD hm ?_⟩
  intro r hr hk
  obtain ⟨h1, h2, h3, h4, h5, h6⟩ := hreqs r hr hk
  exact ⟨h1, by rw [h2, h3]; exact C18_floor c p hp1 hp2 hc1 hc2,
    ⟨h4, by omega, by omega, by omega⟩, h5, h6⟩

/-- **C02 for `rate_limit` itself**: limits `(B, c, p)` in the property's domain, the interval as the
    code computes it (= `p·10⁹ / c` by C18): every decision and every `remaining` for key `k` equal
    those of the ideal bucket of capacity `B` refilled by one token per `p·10⁹ / c` ns. -/
theorem C02_refines_bucket_rate_limit (k : Key) (rs : List Req) (t0 : Int) (B c p : Int)
    (st : AnyStore) (hst : st.data = []) (hm : MonotoneFrom t0 rs)
    (hp1 : 1 ≤ p) (hp2 : p ≤ 9000000) (hc1 : 1 ≤ c) (hc2 : c ≤ p * 1000000000) (hB : 1 ≤ B)
    (hBE : B * (p * 1000000000 / c) ≤ TWO60)
    (hreqs : ∀ r ∈ rs, r.key = k → r.burst = B ∧ r.count = c ∧ r.period = p ∧ 0 ≤ r.qty ∧ 0 ≤ r.now ∧ r.now ≤ T_MAX) :
    ((runTagged AnyStore.ops emissionInterval st rs).filter (fun x => x.1.key = k)).map (fun x => (x.2.allowed, x.2.remaining))
      = Bucket.runFull B (p * 1000000000 / c) none ((rs.filter (fun r => r.key = k)).map reqTQ) := by
  obtain ⟨_, hfix⟩ := fixedD_of_rate_limit_hyps k rs t0 B c p hm hp1 hp2 hc1 hc2 hB hBE hreqs
  exact C02_refines_bucket emissionInterval k rs t0 _ B st hst hm hfix

/-! #### consequences read off the specification -/

/-- a never-seen key admits any quantity up to `max_burst` -/
theorem C02_fresh_admits_up_to_burst (B E t q : Int) (hE : 0 ≤ E) (hq : q ≤ B) :
    (Bucket.step B E none t q).2.1 = true := by
  rw [Bucket.step_eq]
  exact decide_eq_true (Int.mul_le_mul_of_nonneg_right hq hE)

/-- **no starvation**: whatever state earlier requests left (denied ones, zero-quantity ones,
    over-burst ones included), a request of quantity ≤ max_burst is admitted at every instant
    from `ts + (q*E - lvl)` on — a finite wait of at most `B*E` -/
theorem C02_no_starvation (B E t q : Int) (b : Bucket) (hE : 0 ≤ E) (hq : q ≤ B)
    (hwait : q * E - b.lvl ≤ t - b.ts) : (Bucket.step B E (some b) t q).2.1 = true := by
  have : q * E ≤ B * E := Int.mul_le_mul_of_nonneg_right hq hE
  rw [Bucket.step_eq]
  exact decide_eq_true (by simp only [Bucket.refill]; omega)

/-- a fully rested key (idle for the time it takes to refill) admits any quantity up to `max_burst` -/
theorem C02_rested_admits_up_to_burst (B E t q : Int) (b : Bucket) (hE : 0 ≤ E) (hq : q ≤ B)
    (hrest : B * E - b.lvl ≤ t - b.ts) : (Bucket.step B E (some b) t q).2.1 = true := by
  have : q * E ≤ B * E := Int.mul_le_mul_of_nonneg_right hq hE
  exact C02_no_starvation B E t q b hE hq (by omega)

/-- and a request is denied ONLY when the bucket does not hold its cost -/
theorem C02_denied_only_if_short (B E t q : Int) (b : Option Bucket) :
    (Bucket.step B E b t q).2.1 = false ↔ Bucket.refill (B * E) b t < q * E := by
  rw [Bucket.step_eq, decide_eq_false_iff_not, Int.not_le]

/-- requests never drive the level negative or above capacity -/
theorem C02_level_in_range (B E t q : Int) (b : Option Bucket) (hE : 0 ≤ E) (hB : 0 ≤ B)
    (hwf : Bucket.wf (B * E) b) (hts : ∀ bk, b = some bk → bk.ts ≤ t) (hq : 0 ≤ q) :
    Bucket.wf (B * E) (Bucket.step B E b t q).1 := by
  rw [Bucket.step_eq]
  exact lvlAfter_wf (Int.mul_nonneg hB hE) (Int.mul_nonneg hq hE) hwf hts

/-- **no starvation from ANY stored state** - also one left behind by requests with other limits, by
    denied / zero-quantity / over-burst requests, or by a state that has meanwhile expired: whatever
    value `v` the store holds for the key (within the range any request in the time domain can have
    written), a request of quantity `q ≤ max_burst` under limits in D is admitted at every instant
    `now ≥ v + q·E - τ`, a finite time (and immediately if nothing visible is stored). -/
theorem C02_no_starvation_any_state {E B : Int} (c : Cell) (r : Req) (hD : DomD E B) (hb : r.burst = B)
    (hv : r.valid) (hn0 : 0 ≤ r.now) (hn1 : r.now ≤ T_MAX) (hq : r.qty ≤ B)
    (hrange : ∀ v, Cell.ops.get c r.key r.now = some v → -TWO62 ≤ v ∧ v ≤ V_MAX)
    (hwait : ∀ v, Cell.ops.get c r.key r.now = some v → v + r.qty * E - (B * E - E) ≤ r.now) :
    (rateLimitE Cell.ops c E r).2.1.allowed = true := by
  have hE := hD.hE
  rw [rateLimitE_cell c E r hv]
  have hreq : ReqD E B r (Cell.ops.get c r.key r.now) := ⟨hD, hb, hv.1, hn0, hn1, hrange⟩
  apply hreq.allowed_iff.mpr
  have hqE : r.qty * E ≤ B * E := Int.mul_le_mul_of_nonneg_right hq (by omega)
  unfold gTat effTat
  cases hg : Cell.ops.get c r.key r.now with
  | none => simp only; omega
  | some v =>
    have := hwait v hg
    simp only
    omega

/-! #### non-vacuity: burst 2, one token per second, idle gap, over-burst and zero-quantity requests -/

def exHist2 : List Req :=
  [⟨"k", 2, 1, 1, 1, 1000000000⟩, ⟨"k", 2, 1, 1, 2, 1000000000⟩, ⟨"x", 0, 0, 0, -1, 1000000000⟩,
   ⟨"k", 2, 1, 1, 1, 1000000000⟩, ⟨"k", 2, 1, 1, 0, 1500000000⟩, ⟨"k", 2, 1, 1, 3, 9000000000⟩,
   ⟨"k", 2, 1, 1, 2, 9000000000⟩]

theorem exHist2_fixed : FixedD (fun c p => p * 1000000000 / c) 1000000000 2 0 (exHist2.filter (fun r => r.key = "k")) :=
  fixedD_of_forall _ _ _ "k" exHist2 0 ⟨by decide, by decide, by decide⟩ (by decide) (by decide)

example : MonotoneFrom 0 exHist2 := by decide

example : Bucket.runFull 2 1000000000 none ((exHist2.filter (fun r => r.key = "k")).map reqTQ)
    = [(true, 1), (false, 1), (true, 0), (true, 0), (false, 2), (true, 0)] := by decide

end TcVerif
